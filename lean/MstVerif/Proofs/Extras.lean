/-
Non-vacuity and the F1 counterexample: (1) the pinned (unrepaired) invalidation condition of
`split_off_lt` breaks the cache invariant on a three-key tree; (2) `NoCollisions`, assumed by the
schedule-level theorems, is satisfiable.
-/
import MstVerif.Proofs.Sync
import Mathlib.Data.Nat.Basic

namespace Mst

section F1
variable {K V D : Type} [LT K] [LE K] [DecidableLT K] [DecidableLE K]

/-- `splitPg` with the condition of page.rs:409 as the crate stood when it was taken for
verification ("pinned": `lt_high_nodes.is_some() && page_ref.high_page.is_some()`) in the top-level
all-nodes-less-than-key case, which is all the counterexample needs; its recursive calls and every
other case are the repaired `splitPg`/`splitNd`. That case also omits the assertions at
page.rs:368, :397, which hold on the witness. The repair in /repo (commit 4edea89) reduces the
condition to `page_ref.high_page.is_some()`, at page.rs:411, which `splitPg` models. -/
def splitPgPinned (key : K) : Pg K V D → Except String (Pg K V D × Pg K V D)
  | .none => .ok (.none, .none)
  | .some L c nodes high =>
    match splitNd key nodes with
    | .ok .allLt =>
      match splitPg key high with
      | .error e => .error e
      | .ok (a, b) =>
        let c' := if a.isSome && b.isSome then Option.none else c
        .ok (.some L c' nodes a, b)
    | _ => splitPg key (.some L c nodes high)

end F1

/-- A toy page hasher over natural-number keys/values/digests used for the examples below:
digest = length of the byte stream (collisions abound — irrelevant for F1). -/
def lenCfg : HashCfg Nat Nat Nat :=
  { kb := fun k => [k.toUInt8], vb := fun v => [v.toUInt8], db := fun d => [d.toUInt8], h := fun bs => bs.length }

/-- The F1 witness: page `[k=10]` at level 1 whose high page is `[k=30]` at level 0, both with
up-to-date cached digests. -/
def f1Page : Pg Nat Nat Nat :=
  .some 1 (some 3) (.cons .none 10 1 .nil) (.some 0 (some 2) (.cons .none 30 1 .nil) .none)

/-- F1, machine-checked: the page is clean (so cache-consistent); splitting at key 20 with the
PINNED condition returns the page `[10]` without its high page but still carrying the digest that
covered it — the cache invariant is broken; the repaired `splitPg` keeps it. -/
theorem F1_pinned_condition_breaks_cache_invariant :
    CleanPg lenCfg f1Page ∧
    (∃ a b, splitPgPinned 20 f1Page = .ok (a, b) ∧ ¬ CacheOKPg lenCfg a) ∧
    (∃ a b, splitPg 20 f1Page = .ok (a, b) ∧ CacheOKPg lenCfg a ∧ CacheOKPg lenCfg b) := by
  refine ⟨?_, ?_, ?_⟩
  · simp [f1Page, lenCfg, CleanPg, CleanNd, Pg.hashBytes, Nd.hashBytes]
  · refine ⟨.some 1 (some 3) (.cons .none 10 1 .nil) .none,
      .some 0 (some 2) (.cons .none 30 1 .nil) .none, ?_, ?_⟩
    · rfl
    · -- the page carries the digest 3; without its high page its true digest is 2
      exact fun h => absurd (h.cached rfl).cache_eq (by decide)
  · refine ⟨.some 1 none (.cons .none 10 1 .nil) .none,
      .some 0 (some 2) (.cons .none 30 1 .nil) .none, ?_, ?_, ?_⟩
    · rfl
    · simp [lenCfg, CleanPg, CleanNd, CacheOKPg, CacheOKNd, Pg.hashBytes, Nd.hashBytes]
    · simp [lenCfg, CleanPg, CleanNd, CacheOKPg, CacheOKNd, Pg.hashBytes, Nd.hashBytes]

/-- An injective ("perfect") page hasher: digests are the byte streams themselves and every token
is self-delimiting, so different pre-images get different digests. A page's stream is, per node,
`[child digest] key value`, then `[high page digest]` (`encodeTok`, Hash.lean). Tags: a key is `4`,
the key in unary (`0`s), `1`; a value is unary, `1`; a digest is `3`, each byte `b` escaped as
`2 b`, `1`. So a stream position is a digest, a key or the end as it starts with `3`, `4` or
nothing. -/
def perfectCfg : HashCfg Nat Nat (List UInt8) :=
  { kb := fun k => 4 :: (List.replicate k 0 ++ [1])
    vb := fun v => List.replicate v 0 ++ [1]
    db := fun d => 3 :: (d.flatMap (fun b => [2, b]) ++ [1])
    h := id }

private theorem repl_inj {k k' : Nat} {r r' : List UInt8}
    (h : List.replicate k 0 ++ 1 :: r = List.replicate k' 0 ++ 1 :: r') : k = k' ∧ r = r' := by
  have ne : ∀ n, ∀ x ∈ List.replicate n (0 : UInt8), ¬ x = 1 := fun n x hx =>
    List.eq_of_mem_replicate hx ▸ by decide
  obtain ⟨e, -, er⟩ := List.split_unique (· = (1 : UInt8)) rfl rfl _ _ (ne k) (ne k') h
  exact ⟨by simpa using congrArg List.length e, er⟩

-- Here and below the impossible cases differ in the first byte, the tag.
private theorem dig_inj {r r' : List UInt8} (d d' : List UInt8)
    (h : d.flatMap (fun b => [2, b]) ++ 1 :: r = d'.flatMap (fun b => [2, b]) ++ 1 :: r') :
    d = d' ∧ r = r' := by
  induction d generalizing d' with
  | nil =>
    cases d' with
    | nil => exact ⟨rfl, (List.cons.inj h).2⟩
    | cons => exact absurd (List.cons.inj h).1 (by decide)
  | cons b d ih =>
    cases d' with
    | nil => exact absurd (List.cons.inj h).1 (by decide)
    | cons b' d' =>
      obtain ⟨rfl, h'⟩ := List.cons.inj (List.cons.inj h).2
      obtain ⟨rfl, e⟩ := ih d' h'
      exact ⟨rfl, e⟩

private theorem node_inj {k k' v v' : Nat} {r r' : List UInt8}
    (h : perfectCfg.kb k ++ (perfectCfg.vb v ++ r) = perfectCfg.kb k' ++ (perfectCfg.vb v' ++ r')) :
    k = k' ∧ v = v' ∧ r = r' := by
  simp only [perfectCfg, List.cons_append, List.append_assoc, List.nil_append, List.cons.injEq,
    true_and] at h
  obtain ⟨e1, h⟩ := repl_inj h
  obtain ⟨e2, h⟩ := repl_inj h
  exact ⟨e1, e2, h⟩

/-- a key token does not start with the digest tag -/
private theorem kb_head (k : Nat) (r : List UInt8) : (perfectCfg.kb k ++ r).head? ≠ some 3 :=
  fun h => absurd (Option.some.inj h) (by decide)

/-- An optional digest is delimited by what follows it — a key token or nothing: no digest tag. -/
private theorem opt_inj {r r' : List UInt8} (hr : r.head? ≠ some 3) (hr' : r'.head? ≠ some 3) :
    ∀ c c' : Option (List UInt8),
    optBytes perfectCfg c ++ r = optBytes perfectCfg c' ++ r' → c = c' ∧ r = r'
  | none, none, h => ⟨rfl, h⟩
  -- in the mixed cases the head of the side with a digest reduces to the tag `some 3`
  | none, some _, h => absurd (congrArg List.head? h) hr
  | some _, none, h => absurd (congrArg List.head? h).symm hr'
  | some d, some d', h => by
    simp only [optBytes, perfectCfg, List.cons_append, List.append_assoc, List.nil_append,
      List.cons.injEq, true_and] at h
    obtain ⟨e1, e2⟩ := dig_inj _ _ h
    exact ⟨by rw [e1], e2⟩

/-- `encodeTok perfectCfg` is injective; stated with `encodeTok` unfolded. -/
private theorem encodeTok_perfect_inj {o o' : Option (List UInt8)}
    (l l' : List (Option (List UInt8) × Nat × Nat))
    (h : encodeToks perfectCfg l ++ optBytes perfectCfg o = encodeToks perfectCfg l' ++ optBytes perfectCfg o') :
    l = l' ∧ o = o' := by
  induction l generalizing l' with
  | nil =>
    cases l' with
    | nil =>
      exact ⟨rfl, (opt_inj (r := []) (r' := []) nofun nofun o o'
        (by rwa [List.append_nil, List.append_nil])).1⟩
    | cons t l' =>
      -- left: only the closing digest `o`; right: the first node's optional digest, then its key
      -- token. `opt_inj` strips both digests, leaving `[] = kb … ++ …`, which `cases` refutes
      simp only [encodeToks, List.nil_append, List.append_assoc] at h
      cases (opt_inj (r := []) nofun (kb_head _ _) _ _ ((List.append_nil _).trans h)).2
  | cons t l ih =>
    cases l' with
    | nil =>
      -- the same with the sides exchanged
      simp only [encodeToks, List.nil_append, List.append_assoc] at h
      cases (opt_inj (r' := []) (kb_head _ _) nofun _ _ (h.trans (List.append_nil _).symm)).2
    | cons t' l' =>
      simp only [encodeToks, List.append_assoc] at h
      obtain ⟨e1, h⟩ := opt_inj (kb_head _ _) (kb_head _ _) _ _ h
      obtain ⟨e2, e3, h⟩ := node_inj h
      obtain ⟨e4, e5⟩ := ih l' h
      exact ⟨by rw [Prod.ext e1 (Prod.ext e2 e3), e4], e5⟩

/-- Non-vacuity of the collision-freeness hypotheses of C03–C07 and of `NoCollisions` (C05, C06). -/
theorem perfectCfg_noCollisions : NoCollisions perfectCfg := by
  intro p q a _ b _ h
  -- the hash is the identity, so `h` equates the two byte streams
  obtain ⟨e1, e2⟩ := encodeTok_perfect_inj a.1 b.1 h
  exact Prod.ext e1 e2

end Mst

#print axioms Mst.F1_pinned_condition_breaks_cache_invariant
#print axioms Mst.perfectCfg_noCollisions
