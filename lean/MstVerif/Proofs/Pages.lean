/-
Sub-pages of a sorted, stratified tree: the content of each is a contiguous segment of the in-order
content. Hence spans nest, no proper descendant spans its page, sibling spans are disjoint and
ascending: what ties the page ranges to the tree (C11) and carries the tree-level diff theorems.
-/
import MstVerif.Proofs.Hash
import MstVerif.Proofs.Traverse
import MstVerif.Proofs.Assoc

-- the `preorder_*` lemmas take the section's `[LinearOrder K]` without using it
set_option linter.unusedSectionVars false

namespace Mst
variable {K V D : Type} [LinearOrder K]

/-- Keys strictly ascending, stated on the pairs: `List.pairwise_append` then splits a page's content
into its parts without a `map` (`left`, `right`, `cross`, `tail`). -/
def PW (l : List (K × V)) : Prop := l.Pairwise (fun a b => a.1 < b.1)

theorem PW_iff_ksorted {l : List (K × V)} : PW l ↔ KSorted l := List.pairwise_map.symm

theorem Pg.Sorted.pw {p : Pg K V D} (h : p.Sorted) : PW p.content :=
  PW_iff_ksorted.2 (p.sorted_iff_ksorted.1 h)

theorem Nd.Sorted.pw {n : Nd K V D} (h : n.Sorted) : PW n.content :=
  PW_iff_ksorted.2 (n.sorted_iff_ksorted.1 h)

theorem PW.left {l1 l2 : List (K × V)} (h : PW (l1 ++ l2)) : PW l1 :=
  (List.pairwise_append.1 h).1

theorem PW.right {l1 l2 : List (K × V)} (h : PW (l1 ++ l2)) : PW l2 :=
  (List.pairwise_append.1 h).2.1

theorem PW.cross {l1 l2 : List (K × V)} (h : PW (l1 ++ l2)) {x y : K × V}
    (hx : x ∈ l1) (hy : y ∈ l2) : x.1 < y.1 :=
  (List.pairwise_append.1 h).2.2 x hx y hy

theorem PW.tail {a : K × V} {l : List (K × V)} (h : PW (a :: l)) : PW l :=
  (List.pairwise_cons.1 h).2

theorem PW.head_le {l : List (K × V)} (hs : PW l) {a x : K × V}
    (ha : l.head? = some a) (hx : x ∈ l) : a.1 ≤ x.1 :=
  ksorted_head_le (PW_iff_ksorted.1 hs) ha x hx

theorem PW.le_last {l : List (K × V)} (hs : PW l) {b x : K × V}
    (hb : l.getLast? = some b) (hx : x ∈ l) : x.1 ≤ b.1 :=
  ksorted_le_last (PW_iff_ksorted.1 hs) hb x hx

theorem rangeOf_hash {hc : HashCfg K V D} {q : Pg K V D} {r : PR K D}
    (h : rangeOf hc q = some r) : q.trueHash hc = some r.hash := by
  obtain ⟨_, _, _, -, -, hd, rfl⟩ := rangeOf_eq_some_iff.1 h
  exact hd

theorem rangeOf_mem {hc : HashCfg K V D} {q : Pg K V D} {r : PR K D} (h : rangeOf hc q = some r) :
    (∃ a ∈ q.content, a.1 = r.start) ∧ ∃ z ∈ q.content, z.1 = r.end_ := by
  obtain ⟨a, z, _, ha, hz, -, rfl⟩ := rangeOf_eq_some_iff.1 h
  exact ⟨⟨a, List.mem_of_head? ha, rfl⟩, z, List.mem_of_getLast? hz, rfl⟩

theorem rangeOf_bounds {hc : HashCfg K V D} {q : Pg K V D} {r : PR K D} (h : rangeOf hc q = some r)
    (hs : PW q.content) : ∀ x ∈ q.content, r.start ≤ x.1 ∧ x.1 ≤ r.end_ := by
  obtain ⟨a, z, _, ha, hz, -, rfl⟩ := rangeOf_eq_some_iff.1 h
  exact fun x hx => ⟨hs.head_le ha hx, hs.le_last hz hx⟩

theorem Pg.mem_preorder_some {L : Nat} {c : Option D} {n : Nd K V D} {h q : Pg K V D} :
    q ∈ (Pg.some L c n h).preorder ↔ q = .some L c n h ∨ q ∈ n.preorder ∨ q ∈ h.preorder := by
  rw [Pg.preorder, List.mem_cons, List.mem_append]

theorem Nd.mem_preorder_cons {lt : Pg K V D} {k : K} {v : V} {tl : Nd K V D} {q : Pg K V D} :
    q ∈ (Nd.cons lt k v tl).preorder ↔ q ∈ lt.preorder ∨ q ∈ tl.preorder := by
  rw [Nd.preorder, List.mem_append]

/- The inductions over `preorder` below leave out the `.none` / `.nil` arms: `q ∈ []` has no proof
there and Lean closes them. -/
mutual
theorem preorder_isSome (p q : Pg K V D) (hq : q ∈ p.preorder) : q.isSome = true :=
  match p, hq with
  | .some L c n h, hq => by
    rcases Pg.mem_preorder_some.1 hq with rfl | hq | hq
    · rfl
    · exact preorder_isSomeNd n q hq
    · exact preorder_isSome h q hq
theorem preorder_isSomeNd : ∀ (n : Nd K V D) (q : Pg K V D), q ∈ n.preorder → q.isSome = true
  | .cons lt k v tl, q, hq => by
    rcases Nd.mem_preorder_cons.1 hq with hq | hq
    · exact preorder_isSome lt q hq
    · exact preorder_isSomeNd tl q hq
end

theorem preorder_head (L : Nat) (c : Option D) (n : Nd K V D) (h : Pg K V D) :
    (Pg.some L c n h).preorder.head? = some (Pg.some L c n h) := by
  simp [Pg.preorder]

mutual
theorem preorder_Lv (lvl : K → Nat) : ∀ (b : Nat) (p q : Pg K V D),
    LvPg lvl b p → q ∈ p.preorder → ∃ b', LvPg lvl b' q
  | b, .some L c n h, q, hlv, hq => by
    rcases Pg.mem_preorder_some.1 hq with rfl | hq | hq
    · exact ⟨b, hlv⟩
    · exact preorder_LvNd lvl n L q hlv.nodes hq
    · exact preorder_Lv lvl L h q hlv.high hq
theorem preorder_LvNd (lvl : K → Nat) : ∀ (n : Nd K V D) (L : Nat) (q : Pg K V D),
    LvNd lvl L n → q ∈ n.preorder → ∃ b', LvPg lvl b' q
  | .cons lt k v tl, L, q, hlv, hq => by
    rcases Nd.mem_preorder_cons.1 hq with hq | hq
    · exact preorder_Lv lvl L lt q hlv.lt hq
    · exact preorder_LvNd lvl tl L q hlv.tail hq
end

mutual
theorem preorder_clean (hc : HashCfg K V D) (p q : Pg K V D) (hcl : CleanPg hc p)
    (hq : q ∈ p.preorder) : CleanPg hc q :=
  match p, hcl, hq with
  | .some L c n h, hcl, hq => by
    rcases Pg.mem_preorder_some.1 hq with rfl | hq | hq
    · exact hcl
    · exact preorder_cleanNd hc n q hcl.nodes hq
    · exact preorder_clean hc h q hcl.high hq
theorem preorder_cleanNd (hc : HashCfg K V D) : ∀ (n : Nd K V D) (q : Pg K V D),
    CleanNd hc n → q ∈ n.preorder → CleanPg hc q
  | .cons lt k v tl, q, hcl, hq => by
    rcases Nd.mem_preorder_cons.1 hq with hq | hq
    · exact preorder_clean hc lt q hcl.lt hq
    · exact preorder_cleanNd hc tl q hcl.tail hq
end

mutual
theorem preorder_isInfix : ∀ (p q : Pg K V D), q ∈ p.preorder → q.content <:+: p.content
  | .some L c n h, q, hq => by
    rcases Pg.mem_preorder_some.1 hq with rfl | hq | hq
    · exact List.infix_rfl
    · exact (preorder_isInfixNd n q hq).trans (List.prefix_append _ _).isInfix
    · exact (preorder_isInfix h q hq).trans (List.suffix_append _ _).isInfix
theorem preorder_isInfixNd : ∀ (n : Nd K V D) (q : Pg K V D), q ∈ n.preorder → q.content <:+: n.content
  | .cons lt k v tl, q, hq => by
    rcases Nd.mem_preorder_cons.1 hq with hq | hq
    · exact (preorder_isInfix lt q hq).trans (List.prefix_append _ _).isInfix
    · exact (preorder_isInfixNd tl q hq).trans
        ((List.suffix_cons _ _).trans (List.suffix_append _ _)).isInfix
end

theorem preorder_content_subset (p q : Pg K V D) (hq : q ∈ p.preorder) :
    ∀ x ∈ q.content, x ∈ p.content :=
  fun _ hx => (preorder_isInfix p q hq).subset hx

theorem preorder_content_subsetNd (n : Nd K V D) (q : Pg K V D) (hq : q ∈ n.preorder) :
    ∀ x ∈ q.content, x ∈ n.content :=
  fun _ hx => (preorder_isInfixNd n q hq).subset hx

/-- A sub-page of a sorted tree is sorted. -/
theorem preorder_sorted (p q : Pg K V D) (hs : p.Sorted) (hq : q ∈ p.preorder) : q.Sorted :=
  List.Pairwise.sublist ((preorder_isInfix p q hq).sublist.map Prod.fst) hs

theorem preorder_contiguous {hc : HashCfg K V D} {p q : Pg K V D} (hs : p.Sorted) (hq : q ∈ p.preorder)
    {r : PR K D} (hr : rangeOf hc q = some r)
    {kv : K × V} (hkv : kv ∈ p.content) (h1 : r.start ≤ kv.1) (h2 : kv.1 ≤ r.end_) : kv ∈ q.content := by
  obtain ⟨⟨a, ha, ea⟩, z, hz, ez⟩ := rangeOf_mem hr
  obtain ⟨pre, suf, e⟩ := preorder_isInfix p q hq
  have hpw : PW (pre ++ q.content ++ suf) := e ▸ hs.pw
  rw [← e] at hkv
  rcases List.mem_append.1 hkv with hkv | hkv
  · rcases List.mem_append.1 hkv with hkv | hkv
    · exact absurd (lt_of_lt_of_le (hpw.left.cross hkv ha) (ea ▸ h1)) (lt_irrefl _)
    · exact hkv
  · exact absurd (lt_of_le_of_lt (ez ▸ h2) (hpw.cross (List.mem_append_right _ hz) hkv)) (lt_irrefl _)

theorem sorted_lookup_unique (p : Pg K V D) (hs : p.Sorted) (k : K) (v w : V)
    (h1 : (k, v) ∈ p.content) (h2 : (k, w) ∈ p.content) : v = w :=
  ksorted_unique p.content (p.sorted_iff_ksorted.1 hs) k v w h1 h2

/- A sub-page's hash inputs are among the tree's, so `CollisionFree` of the tree's `allToks` covers
every sub-page: DiffTree applies `merkle_inj` below the root. -/
mutual
theorem preorder_allToks (hc : HashCfg K V D) : ∀ (p q : Pg K V D), q ∈ p.preorder →
    ∀ t ∈ q.allToks hc, t ∈ p.allToks hc
  | .some L c n h, q, hq, t, ht => by
    rcases Pg.mem_preorder_some.1 hq with rfl | hq | hq
    · exact ht
    · exact List.mem_cons_of_mem _ (List.mem_append_left _ (preorder_allToksNd hc n q hq t ht))
    · exact List.mem_cons_of_mem _ (List.mem_append_right _ (preorder_allToks hc h q hq t ht))
theorem preorder_allToksNd (hc : HashCfg K V D) : ∀ (n : Nd K V D) (q : Pg K V D), q ∈ n.preorder →
    ∀ t ∈ q.allToks hc, t ∈ n.allToks hc
  | .cons lt k v tl, q, hq, t, ht => by
    rcases Nd.mem_preorder_cons.1 hq with hq | hq
    · exact List.mem_append_left _ (preorder_allToks hc lt q hq t ht)
    · exact List.mem_append_right _ (preorder_allToksNd hc tl q hq t ht)
end

theorem rangeOf_exists {lvl : K → Nat} (hc : HashCfg K V D) {b : Nat} {q : Pg K V D}
    (hlv : LvPg lvl b q) (hq : q.isSome = true) :
    ∃ a z d, q.content.head? = some a ∧ q.content.getLast? = some z ∧ q.trueHash hc = some d ∧
      rangeOf hc q = some { start := a.1, end_ := z.1, hash := d } := by
  cases q with
  | none => cases hq
  | some L c n h =>
    -- a stratified page has a node, so its content has a first and a last entry
    obtain ⟨a, z, ha, hz⟩ := exists_head_last (LvPg_some_content_ne_nil hlv)
    exact ⟨a, z, _, ha, hz, rfl, rangeOf_eq_some_iff.2 ⟨a, z, _, ha, hz, rfl, rfl⟩⟩

theorem rangeOf_nested {hc : HashCfg K V D} {p q : Pg K V D} (hs : p.Sorted) (hq : q ∈ p.preorder)
    {rp rq : PR K D} (hrp : rangeOf hc p = some rp) (hrq : rangeOf hc q = some rq) :
    rp.start ≤ rq.start ∧ rq.end_ ≤ rp.end_ := by
  obtain ⟨⟨a, ha, ea⟩, z, hz, ez⟩ := rangeOf_mem hrq
  have hb := fun x hx => rangeOf_bounds hrp hs.pw x (preorder_content_subset p q hq x hx)
  exact ⟨ea ▸ (hb a ha).1, ez ▸ (hb z hz).2⟩

/-- The witness is the key of the node whose `lt` child contains the sub-page. -/
theorem preorder_lt_keyNd (n : Nd K V D) : PW n.content → ∀ q ∈ n.preorder,
    ∀ x ∈ q.content, ∃ y ∈ n.content, x.1 < y.1 := by
  induction n using Nd.induction_tail with
  | nil => exact fun _ _ hq => nomatch hq
  | cons lt k v tl ih =>
    intro hs q hq x hx
    have hs' : PW (lt.content ++ (k, v) :: tl.content) := hs
    rcases Nd.mem_preorder_cons.1 hq with hq | hq
    · exact ⟨(k, v), List.mem_append_right _ List.mem_cons_self,
        hs'.cross (preorder_content_subset lt q hq x hx) List.mem_cons_self⟩
    · obtain ⟨y, hy, hlt⟩ := ih hs'.right.tail q hq x hx
      exact ⟨y, List.mem_append_right _ (List.mem_cons_of_mem _ hy), hlt⟩

/-- No proper descendant (`q ∈ n.preorder ++ h.preorder`) spans its page (equal spans, by
`rangeOf_nested`): the diff's "shrink local range" loop never replaces a page by a descendant. -/
theorem descendant_not_superset {hc : HashCfg K V D} {L : Nat} {c : Option D} {n : Nd K V D}
    {h : Pg K V D} (hn : n ≠ .nil) (hs : (Pg.some L c n h).Sorted)
    {q : Pg K V D} (hq : q ∈ n.preorder ++ h.preorder)
    {rp rq : PR K D} (hrp : rangeOf hc (.some L c n h) = some rp) (hrq : rangeOf hc q = some rq) :
    ¬ (rq.start ≤ rp.start ∧ rp.end_ ≤ rq.end_) := by
  obtain ⟨⟨aq, haq, eaq⟩, zq, hzq, ezq⟩ := rangeOf_mem hrq
  have hpw : PW (n.content ++ h.content) := hs.pw
  have hb := fun y (hy : y ∈ n.content) =>
    rangeOf_bounds hrp hs.pw y (List.mem_append_left h.content hy)
  rintro ⟨h1, h2⟩
  rcases List.mem_append.1 hq with hq | hq
  · -- `q` lies under some node key `y`: its last key `< y ≤` the page's last key
    obtain ⟨y, hy, hlt⟩ := preorder_lt_keyNd n hpw.left q hq zq hzq
    exact lt_irrefl _ (lt_of_lt_of_le hlt (le_trans (hb y hy).2 (le_trans h2 (le_of_eq ezq.symm))))
  · -- `q` lies under the high page: its first key is above every node key, and there is one
    obtain ⟨y, hy⟩ : ∃ y, y ∈ n.content := by
      cases n with
      | nil => exact absurd rfl hn
      | cons lt k v tl => exact ⟨(k, v), by simp [Nd.content]⟩
    have hlt := hpw.cross hy (preorder_content_subset h q hq aq haq)
    exact lt_irrefl _ (lt_of_le_of_lt (hb y hy).1 (lt_of_lt_of_le hlt (le_trans (le_of_eq eaq) h1)))

/-- The `lt` child of each node, in order. -/
def Nd.children : Nd K V D → List (Pg K V D)
  | .nil => []
  | .cons lt _ _ tl => (match lt with | .none => [] | .some .. => [lt]) ++ tl.children

/-- Direct children of a page, in traversal order: those of its nodes, then the high page. -/
def Pg.children : Pg K V D → List (Pg K V D)
  | .none => []
  | .some _ _ n h => n.children ++ (match h with | .none => [] | .some .. => [h])

/-- What the list `children` makes of an optional page contributes: that page's content. -/
theorem flatMap_optPage (p : Pg K V D) :
    (match p with | .none => [] | .some .. => [p] : List (Pg K V D)).flatMap Pg.content = p.content := by
  cases p with
  | none => rfl
  | some => exact List.flatMap_singleton ..

/-- The children's contents, in order, are the nodes' content without the nodes' own entries. -/
theorem Nd.children_sublist (n : Nd K V D) : (n.children.flatMap Pg.content).Sublist n.content := by
  induction n using Nd.induction_tail with
  | nil => exact .slnil
  | cons lt k v tl ih =>
    simp only [Nd.children, List.flatMap_append, flatMap_optPage]
    exact (List.Sublist.refl _).append (ih.cons _)

theorem Pg.children_sublist (p : Pg K V D) : (p.children.flatMap Pg.content).Sublist p.content := by
  cases p with
  | none => exact .slnil
  | some L c n h =>
    simp only [Pg.children, List.flatMap_append, flatMap_optPage]
    exact n.children_sublist.append (List.Sublist.refl _)

theorem siblings_ascending (hc : HashCfg K V D) {p : Pg K V D} (hs : p.Sorted) :
    (p.children.filterMap (rangeOf hc)).Pairwise (fun r s => r.end_ < s.start) := by
  -- the children's contents, concatenated, are a subsequence of the page's content and inherit its
  -- order: all keys of an earlier child are below all keys of a later one (`pairwise_flatMap`)
  have hch := (List.pairwise_flatMap.1 (List.Pairwise.sublist p.children_sublist hs.pw)).2
  refine List.Pairwise.filterMap (rangeOf hc) ?_ hch
  intro q r hqr rq hrq rr hrr
  obtain ⟨-, z, hz, ez⟩ := rangeOf_mem hrq
  obtain ⟨⟨a, ha, ea⟩, -⟩ := rangeOf_mem hrr
  rw [← ez, ← ea]
  exact hqr z hz a ha

/- An independent page count; `C11_once` measures the serialisation against it. -/
mutual
def Pg.pageCount : Pg K V D → Nat
  | .none => 0
  | .some _ _ n h => 1 + n.pageCount + h.pageCount
def Nd.pageCount : Nd K V D → Nat
  | .nil => 0
  | .cons lt _ _ tl => lt.pageCount + tl.pageCount
end

mutual
theorem preorder_length : ∀ (p : Pg K V D), p.preorder.length = p.pageCount
  | .none => by simp [Pg.preorder, Pg.pageCount]
  | .some L c n h => by
    simp only [Pg.preorder, Pg.pageCount, List.length_cons, List.length_append,
      preorder_lengthNd n, preorder_length h]
    omega
theorem preorder_lengthNd : ∀ (n : Nd K V D), n.preorder.length = n.pageCount
  | .nil => by simp [Nd.preorder, Nd.pageCount]
  | .cons lt k v tl => by
    simp only [Nd.preorder, Nd.pageCount, List.length_append,
      preorder_length lt, preorder_lengthNd tl]
end

end Mst
