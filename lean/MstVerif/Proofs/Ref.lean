/-
C14 (second half): a reference construction of the tree from its content alone — never through
`upsert` — and the theorem that every well-shaped tree hashes to it.

`refPg` on a non-empty ascending run: page level = the run's maximal key level; nodes = its keys of
that level, in order; the run before each is its `lt` child, the run after the last the high page
(each if non-empty).
-/
import MstVerif.Proofs.Hash

namespace Mst
variable {K V D : Type}

def maxLevel (lvl : K → Nat) : List (K × V) → Nat
  | [] => 0
  | kv :: r => max (lvl kv.1) (maxLevel lvl r)

mutual
/-- the page of a run (`none` for the empty run); `fuel` bounds the recursion -/
def refPg (lvl : K → Nat) : Nat → List (K × V) → Pg K V D
  | 0, _ => .none
  | fuel + 1, c =>
    match c with
    | [] => .none
    | _ :: _ =>
      let L := maxLevel lvl c
      let r := refNd lvl fuel L c
      .some L none r.1 r.2
/-- nodes and high page of a run at page level `L` -/
def refNd (lvl : K → Nat) : Nat → Nat → List (K × V) → Nd K V D × Pg K V D
  | 0, _, _ => (.nil, .none)
  | fuel + 1, L, c =>
    let seg := c.takeWhile (fun kv => decide (lvl kv.1 < L))
    match c.dropWhile (fun kv => decide (lvl kv.1 < L)) with
    | [] => (.nil, refPg lvl fuel seg)
    | kv :: rest =>
      let r := refNd lvl fuel L rest
      (.cons (refPg lvl fuel seg) kv.1 kv.2 r.1, r.2)
end

/-- The reference root page for a content: the empty tree's `Page::new(0, [])`, else `refPg`.
Fuel `3 * c.length`: a run of `n` keys with strictly descending levels needs fuel `3n - 1`
(each key costs one `refPg` and two `refNd` steps), so `2n + 2` would be too little from
`n = 4`. -/
def refRootPg (lvl : K → Nat) (c : List (K × V)) : Pg K V D :=
  match c with
  | [] => .some 0 none .nil .none
  | _ :: _ => refPg lvl (3 * c.length) c

def refRoot (lvl : K → Nat) (hc : HashCfg K V D) (c : List (K × V)) : Option D :=
  (refRootPg (D := D) lvl c).trueHash hc

theorem le_maxLevel (lvl : K → Nat) (c : List (K × V)) : ∀ kv ∈ c, lvl kv.1 ≤ maxLevel lvl c := by
  induction c with
  | nil => exact fun _ h => nomatch h
  | cons a r ih =>
    intro kv h
    rcases List.mem_cons.1 h with rfl | h
    · exact Nat.le_max_left _ _
    · exact Nat.le_trans (ih kv h) (Nat.le_max_right _ _)

theorem maxLevel_mem (lvl : K → Nat) (c : List (K × V)) : c ≠ [] →
    ∃ kv ∈ c, lvl kv.1 = maxLevel lvl c := by
  induction c with
  | nil => exact fun h => absurd rfl h
  | cons a r ih =>
    intro _
    -- a rest with a higher level is not empty: `maxLevel lvl [] = 0`
    rcases Nat.lt_or_ge (lvl a.1) (maxLevel lvl r) with hlt | hge
    · obtain ⟨kv, hm, he⟩ := ih fun e => Nat.not_lt_zero _ (e ▸ hlt)
      exact ⟨kv, List.mem_cons_of_mem _ hm, he.trans (Nat.max_eq_right (Nat.le_of_lt hlt)).symm⟩
    · exact ⟨a, List.mem_cons_self, (Nat.max_eq_left hge).symm⟩

theorem maxLevel_lt (lvl : K → Nat) (c : List (K × V)) (b : Nat) (hne : c ≠ [])
    (h : ∀ kv ∈ c, lvl kv.1 < b) : maxLevel lvl c < b := by
  obtain ⟨kv, hm, he⟩ := maxLevel_mem lvl c hne
  exact he ▸ h kv hm

theorem refPg_nil (lvl : K → Nat) (f : Nat) : refPg (D := D) lvl f ([] : List (K × V)) = .none := by
  cases f <;> rfl

theorem refPg_succ_cons (lvl : K → Nat) (f : Nat) (a : K × V) (r : List (K × V)) :
    refPg (D := D) lvl (f + 1) (a :: r) =
      .some (maxLevel lvl (a :: r)) none (refNd lvl f (maxLevel lvl (a :: r)) (a :: r)).1
        (refNd lvl f (maxLevel lvl (a :: r)) (a :: r)).2 := rfl

theorem refNd_succ_nil (lvl : K → Nat) (f L : Nat) (c : List (K × V))
    (h : c.dropWhile (fun kv => decide (lvl kv.1 < L)) = []) :
    refNd (D := D) lvl (f + 1) L c =
      (.nil, refPg lvl f (c.takeWhile (fun kv => decide (lvl kv.1 < L)))) := by
  simp only [refNd, h]

theorem refNd_succ_cons (lvl : K → Nat) (f L : Nat) (c : List (K × V)) (kv : K × V)
    (rest : List (K × V)) (h : c.dropWhile (fun kv => decide (lvl kv.1 < L)) = kv :: rest) :
    refNd (D := D) lvl (f + 1) L c =
      (.cons (refPg lvl f (c.takeWhile (fun kv => decide (lvl kv.1 < L)))) kv.1 kv.2
        (refNd lvl f L rest).1, (refNd lvl f L rest).2) := by
  simp only [refNd, h]

private theorem fuel_zero {n : Nat} (h : 3 * n ≤ 2) : n = 0 :=
  Nat.eq_zero_of_not_pos fun hp => absurd (Nat.le_trans (Nat.mul_le_mul_left 3 hp) h) (by decide)

private theorem fuel_split {a b n f : Nat} (hlen : n = a + (b + 1)) (h : 3 * n ≤ f + 3) :
    3 * a ≤ f + 1 ∧ 3 * b ≤ f := by
  rw [hlen, Nat.mul_add, Nat.mul_add, ← Nat.add_assoc] at h
  have h' : 3 * a + 3 * b ≤ f := Nat.le_of_add_le_add_right h
  exact ⟨Nat.le_succ_of_le (Nat.le_trans (Nat.le_add_right _ _) h'),
    Nat.le_trans (Nat.le_add_left _ _) h'⟩

/-- Fuel (a key costs 3, see `refRootPg`): `refPg` calls `refNd` at the maximal level of its run, so
that call meets a key of level `L`, which uses up its two extra units; the rest of the run fits the
plain bound `3 * length ≤ fuel`. -/
theorem ref_spec (lvl : K → Nat) (f : Nat) :
    (∀ (c : List (K × V)) (b : Nat), 3 * c.length ≤ f + 1 → (∀ kv ∈ c, lvl kv.1 < b) →
      LvPg lvl b (refPg (D := D) lvl f c) ∧ (refPg (D := D) lvl f c).content = c) ∧
    (∀ (L : Nat) (c : List (K × V)), (∀ kv ∈ c, lvl kv.1 ≤ L) →
      (3 * c.length ≤ f ∨ (3 * c.length ≤ f + 2 ∧ ∃ kv ∈ c, lvl kv.1 = L)) →
      LvNd lvl L (refNd (D := D) lvl f L c).1 ∧ LvPg lvl L (refNd (D := D) lvl f L c).2 ∧
      (refNd (D := D) lvl f L c).1.content ++ (refNd (D := D) lvl f L c).2.content = c ∧
      ((∃ kv ∈ c, lvl kv.1 = L) → (refNd (D := D) lvl f L c).1 ≠ .nil)) := by
  induction f with
  | zero =>
    refine ⟨fun c b hf _ => ?_, fun L c _ hf => ?_⟩
    · obtain rfl : c = [] := List.eq_nil_of_length_eq_zero (fuel_zero (Nat.le_succ_of_le hf))
      exact ⟨trivial, rfl⟩
    · have hf' : 3 * c.length ≤ 2 := hf.elim (fun h => Nat.le_trans h (Nat.zero_le 2)) (·.1)
      obtain rfl : c = [] := List.eq_nil_of_length_eq_zero (fuel_zero hf')
      exact ⟨trivial, trivial, rfl, fun ⟨_, h, _⟩ => nomatch h⟩
  | succ f ih =>
    obtain ⟨ihP, ihN⟩ := ih
    refine ⟨fun c b hf hb => ?_, fun L c hle hf => ?_⟩
    · cases c with
      | nil => rw [refPg_nil]; exact ⟨trivial, rfl⟩
      | cons a r =>
        have hex := maxLevel_mem lvl (a :: r) (List.cons_ne_nil _ _)
        -- fuel: one unit is spent; `hex` (the maximal level is attained) entitles `refNd` to its two
        -- extra units
        obtain ⟨h1, h2, h3, h4⟩ := ihN (maxLevel lvl (a :: r)) (a :: r) (le_maxLevel lvl _)
          (Or.inr ⟨hf, hex⟩)
        exact ⟨⟨maxLevel_lt lvl _ b (List.cons_ne_nil _ _) hb, h4 hex, h1, h2⟩, h3⟩
    · -- `c` is the run below `L` (a child), then the first key of level `L`, then the rest
      have hsplit :=
        (List.takeWhile_append_dropWhile (p := fun kv => decide (lvl kv.1 < L)) (l := c)).symm
      have hseg : ∀ x ∈ c.takeWhile (fun kv => decide (lvl kv.1 < L)), lvl x.1 < L := fun x hx =>
        of_decide_eq_true (List.all_eq_true.1 List.all_takeWhile x hx)
      cases hd : c.dropWhile (fun kv => decide (lvl kv.1 < L)) with
      | nil =>
        -- nothing is dropped: `c` is its own run below `L`
        rw [hd, List.append_nil] at hsplit
        have hbelow : ∀ kv ∈ c, lvl kv.1 < L := fun kv hkv => hseg kv (by rw [← hsplit]; exact hkv)
        have hno : ¬ ∃ kv ∈ c, lvl kv.1 = L := fun ⟨kv, hkv, he⟩ =>
          absurd (hbelow kv hkv) (by rw [he]; exact Nat.lt_irrefl L)
        rw [refNd_succ_nil lvl f L c hd, ← hsplit]
        obtain ⟨h1, h2⟩ := ihP c L (hf.elim id fun h => absurd h.2 hno) hbelow
        exact ⟨trivial, h1, h2, fun h => absurd h hno⟩
      | cons kv rest =>
        rw [hd] at hsplit
        have hkvmem : kv ∈ c := by rw [hsplit]; simp
        have hrest : ∀ x ∈ rest, x ∈ c := fun x hx => by rw [hsplit]; simp [hx]
        have hlen := congrArg List.length hsplit
        rw [List.length_append, List.length_cons] at hlen
        -- the first entry that is dropped fails the test
        have hnot : ¬ lvl kv.1 < L := by
          have := List.head_dropWhile_not (fun kv => decide (lvl kv.1 < L)) (l := c) (by simp [hd])
          simpa [hd] using this
        have hkvL : lvl kv.1 = L := Nat.le_antisymm (hle kv hkvmem) (Nat.not_lt.1 hnot)
        -- fuel: either disjunct of `hf` gives `3 * c.length ≤ f + 3` (the second because `kv` is its
        -- key of level `L`); `kv` takes the 3, so by `hlen` the run before it and the rest together
        -- fit `f`: the child gets `f + 1`, the remaining nodes the plain bound
        have hfuel : 3 * c.length ≤ f + 3 := hf.elim (Nat.le_trans · (Nat.le_add_right _ 2)) (·.1)
        obtain ⟨hf1, hf2⟩ := fuel_split hlen hfuel
        obtain ⟨p1, p2⟩ := ihP (c.takeWhile fun kv => decide (lvl kv.1 < L)) L hf1 hseg
        obtain ⟨n1, n2, n3, -⟩ := ihN L rest (fun x hx => hle x (hrest x hx)) (Or.inl hf2)
        rw [refNd_succ_cons lvl f L c kv rest hd]
        refine ⟨⟨p1, hkvL, n1⟩, n2, ?_, fun _ => nofun⟩
        simp only [Nd.content, p2, List.append_assoc, List.cons_append, n3]
        exact hsplit.symm

theorem refRootPg_spec (lvl : K → Nat) (c : List (K × V)) :
    LvRoot lvl (refRootPg (D := D) lvl c) ∧ (refRootPg (D := D) lvl c).content = c := by
  cases c with
  | nil => exact ⟨⟨fun _ => ⟨rfl, rfl⟩, trivial, trivial⟩, rfl⟩
  | cons a r =>
    -- `refRootPg` gives fuel `3 * (a :: r).length`, one more than `ref_spec` asks; it reduces to
    -- a successor, so `refPg` unfolds to a page (`nofun`)
    obtain ⟨h1, h2⟩ := (ref_spec (D := D) lvl (3 * (a :: r).length)).1 (a :: r)
      (maxLevel lvl (a :: r) + 1) (Nat.le_succ _)
      (fun kv hkv => Nat.lt_succ_of_le (le_maxLevel lvl _ kv hkv))
    exact ⟨LvRoot_of_LvPg nofun h1, h2⟩

/-- Every well-shaped tree has the shape of the reference construction of its own content. -/
theorem erase_eq_ref {lvl : K → Nat} {p : Pg K V D} (hp : LvRoot lvl p) :
    p.erase = (refRootPg (D := D) lvl p.content).erase := by
  obtain ⟨h1, h2⟩ := refRootPg_spec (D := D) lvl p.content
  exact root_unique lvl p _ hp h1 h2.symm

theorem trueHash_eq_refRoot {lvl : K → Nat} (hc : HashCfg K V D) {p : Pg K V D}
    (hp : LvRoot lvl p) :
    p.trueHash hc = refRoot lvl hc p.content :=
  trueHash_congr hc (erase_eq_ref hp)

end Mst
