/-
L9c (C06): any number of replicas, any schedule of writes and pairwise pulls, values in an ARBITRARY
join-semilattice. `SGood` (safety) and `Psi` (potential) speak of the list of stores, which a step
moves by `StoreStep`. Trees enter at `syncStep_pull`, `syncStep_write`, `PullsFrom.step`
(`pull_store_congr`), `quiet_allEq` (`pull_progress`), `sweeps_converge` (`RInv.genRootHash_congr`).
-/
import MstVerif.Proofs.SyncConv

set_option linter.unusedSectionVars false

namespace Mst

section
variable {α : Type}

theorem forall_mem_set {P : α → Prop} {l : List α} (h : ∀ a ∈ l, P a) (i : Nat) {x : α}
    (hx : P x) : ∀ a ∈ l.set i x, P a := fun a ha =>
  (List.mem_or_eq_of_mem_set ha).elim (h a) fun e => e ▸ hx

theorem lt_of_getElem?_some {l : List α} {i : Nat} {a : α} (h : l[i]? = some a) : i < l.length :=
  (List.getElem?_eq_some_iff.1 h).1

theorem set_eq_self {l : List α} {i : Nat} {a : α} (h : l[i]? = some a) : l.set i a = l := by
  obtain ⟨hlt, hget⟩ := List.getElem?_eq_some_iff.1 h
  rw [← hget]
  exact List.set_getElem_self hlt

theorem countP_lt {p q : α → Bool} (l : List α)
    (hpq : ∀ x ∈ l, p x = true → q x = true) (a : α) (ha : a ∈ l) (hpa : p a = false)
    (hqa : q a = true) : l.countP p < l.countP q := by
  -- split `l` by `p`: `q` holds on all of the `p` part, and at `a` in the rest
  have hpos : 0 < (l.filter fun x => !p x).countP q :=
    List.countP_pos_iff.2 ⟨a, List.mem_filter.2 ⟨ha, by rw [hpa]; rfl⟩, hqa⟩
  rw [List.countP_eq_countP_filter_add l q p,
    List.countP_eq_length.2 fun x hx => hpq x (List.mem_filter.1 hx).1 (List.mem_filter.1 hx).2,
    ← List.countP_eq_length_filter]
  omega

theorem sum_map_set (f : α → Nat) (l : List α) (i : Nat) (x a : α) (h : l[i]? = some a) :
    ((l.set i x).map f).sum + f a = (l.map f).sum + f x := by
  induction l generalizing i with
  | nil => cases h
  | cons b l ih =>
    cases i with
    | zero =>
      cases h
      simp only [List.set_cons_zero, List.map_cons, List.sum_cons]
      omega
    | succ i =>
      have := ih i h
      simp only [List.set_cons_succ, List.map_cons, List.sum_cons]
      omega

end

section
variable {K V D : Type}

def storesOf (rs : List (Replica K V D)) : List (List (K × V)) := rs.map (·.store)

theorem storesOf_getElem? (rs : List (Replica K V D)) (i : Nat) (r : Replica K V D)
    (h : rs[i]? = some r) : (storesOf rs)[i]? = some r.store := by
  rw [storesOf, List.getElem?_map, h]
  rfl

theorem exists_of_storesOf_getElem? {rs : List (Replica K V D)} {i : Nat} {s : List (K × V)}
    (h : (storesOf rs)[i]? = some s) : ∃ r, rs[i]? = some r ∧ r.store = s := by
  rw [storesOf, List.getElem?_map] at h
  exact Option.map_eq_some_iff.1 h

theorem mem_storesOf (rs : List (Replica K V D)) (r : Replica K V D) (h : r ∈ rs) :
    r.store ∈ storesOf rs := List.mem_map_of_mem h

theorem storesOf_set (rs : List (Replica K V D)) (i : Nat) (r : Replica K V D) :
    storesOf (rs.set i r) = (storesOf rs).set i r.store := List.map_set ..

theorem storesOf_set_same (rs : List (Replica K V D)) (i : Nat) (r r' : Replica K V D)
    (h : rs[i]? = some r) (hs : r'.store = r.store) : storesOf (rs.set i r') = storesOf rs := by
  rw [storesOf_set, hs]
  exact set_eq_self (storesOf_getElem? rs i r h)

/-- `syncStep (.pull i j)`: `i` receives, `j` returns with its store unchanged -/
theorem storesOf_set_set (rs : List (Replica K V D)) (i j : Nat) (ri' rj rj' : Replica K V D)
    (hij : i ≠ j) (hj : rs[j]? = some rj) (hs : rj'.store = rj.store) :
    storesOf ((rs.set i ri').set j rj') = (storesOf rs).set i ri'.store := by
  have hj' : (rs.set i ri')[j]? = some rj := by
    rw [List.getElem?_set_ne hij]
    exact hj
  rw [storesOf_set_same _ j rj rj' hj' hs, storesOf_set]

end

variable {K V D : Type} [LinearOrder K] [SemilatticeSup V] [DecidableEq V] [DecidableEq D]

def freshReplicas (n : Nat) : List (Replica K V D) := List.replicate n Replica.empty

theorem freshReplicas_inv (lvl : K → Nat) (hc : HashCfg K V D) (n : Nat) :
    ∀ r ∈ (freshReplicas n : List (Replica K V D)), RInv lvl hc r := by
  intro r hr
  rw [List.eq_of_mem_replicate hr]
  exact Replica.empty_inv lvl hc

theorem storesOf_freshReplicas (n : Nat) :
    storesOf (freshReplicas n : List (Replica K V D)) = List.replicate n [] :=
  List.map_replicate

theorem sorted_storesOf {lvl : K → Nat} {hc : HashCfg K V D} {rs : List (Replica K V D)}
    (h : ∀ r ∈ rs, RInv lvl hc r) : ∀ s ∈ storesOf rs, KSorted s := by
  intro s hs
  obtain ⟨r, hr, rfl⟩ := List.mem_map.1 hs
  exact (h r hr).sorted

/-- One step on the list of stores, indexed by the WRITES it adds to the history (a pull: `[]`). -/
inductive StoreStep (m : Merge) (S : List (List (K × V))) :
    List (SyncOp K V) → List (List (K × V)) → Prop
  | idle : StoreStep m S [] S
  | write {r k v s} (h : S[r]? = some s) :
      StoreStep m S [.write r k v] (S.set r (absorbStore m s [(k, v)]))
  | recv {i si sj} (R : List (DR K)) (hi : S[i]? = some si) (hj : sj ∈ S) :
      StoreStep m S [] (S.set i (absorbStore m si (fetch sj R)))

theorem StoreStep.length_stores {m : Merge} {S S' : List (List (K × V))} {w : List (SyncOp K V)}
    (h : StoreStep m S w S') : S'.length = S.length := by
  cases h with
  | idle => rfl
  | write _ => exact List.length_set
  | recv _ _ _ => exact List.length_set

theorem StoreStep.length_replicas {m : Merge} {rs rs' : List (Replica K V D)} {w : List (SyncOp K V)}
    (h : StoreStep m (storesOf rs) w (storesOf rs')) : rs'.length = rs.length := by
  simpa only [storesOf, List.length_map] using h.length_stores

/-- Last clause, for liveness: if no store moved, the `pull` made returned the receiver's store
(`PullsFrom.step`). -/
theorem syncStep_pull {lvl : K → Nat} (hlvl : ∀ k, lvl k < 255) {hc : HashCfg K V D} (m : Merge)
    {rs : List (Replica K V D)} (hrs : ∀ r ∈ rs, RInv lvl hc r) (i j : Nat) :
    ∃ rs', syncStep lvl hc m rs (.pull i j) = .ok rs' ∧ (∀ r ∈ rs', RInv lvl hc r) ∧
      StoreStep m (storesOf rs) [] (storesOf rs') ∧
      ∀ ri rj, i ≠ j → rs[i]? = some ri → rs[j]? = some rj → ∃ ri' rj',
        pull lvl hc m ri rj = .ok (ri', rj') ∧ storesOf rs' = (storesOf rs).set i ri'.store := by
  by_cases hij : i = j
  · exact ⟨rs, by simp only [syncStep, hij, if_true], hrs, .idle,
      fun _ri _rj hne _hri _hrj => absurd hij hne⟩
  cases hi : rs[i]? with
  | none =>
    exact ⟨rs, by simp only [syncStep, hij, hi, if_false], hrs, .idle,
      fun _ri _rj _hne hri _hrj => nomatch hri⟩
  | some ri =>
    cases hj : rs[j]? with
    | none =>
      exact ⟨rs, by simp only [syncStep, hij, hi, hj, if_false], hrs, .idle,
        fun _ri _rj _hne _hri hrj => nomatch hrj⟩
    | some rj =>
      obtain ⟨R, ri', rj', hpull, hinvI, hinvJ, hstoreJ, hstoreI, -⟩ :=
        pull_spec lvl hlvl hc m ri rj (hrs ri (List.mem_of_getElem? hi))
          (hrs rj (List.mem_of_getElem? hj))
      have hS := storesOf_set_set rs i j ri' rj rj' hij hj hstoreJ
      refine ⟨(rs.set i ri').set j rj',
        by simp only [syncStep, hij, hi, hj, hpull, setAt, if_false],
        forall_mem_set (forall_mem_set hrs i hinvI) j hinvJ, ?_, ?_⟩
      · rw [hS, hstoreI]
        exact .recv R (storesOf_getElem? rs i ri hi) (mem_storesOf rs rj (List.mem_of_getElem? hj))
      · intro ri₀ rj₀ _ hi₀ hj₀
        cases hi₀
        cases hj₀
        exact ⟨ri', rj', hpull, hS⟩

/-- A write to a missing replica (`rs.length ≤ r`) does nothing and leaves no trace. -/
theorem syncStep_write {lvl : K → Nat} (hlvl : ∀ k, lvl k < 255) {hc : HashCfg K V D} (m : Merge)
    {rs : List (Replica K V D)} (hrs : ∀ r ∈ rs, RInv lvl hc r) (r : Nat) (k : K) (v : V) :
    ∃ rs', syncStep lvl hc m rs (.write r k v) = .ok rs' ∧ (∀ x ∈ rs', RInv lvl hc x) ∧
      StoreStep m (storesOf rs) (if r < rs.length then [.write r k v] else []) (storesOf rs') := by
  cases hr : rs[r]? with
  | none =>
    refine ⟨rs, by simp only [syncStep, hr], hrs, ?_⟩
    rw [if_neg (Nat.not_lt.2 (List.getElem?_eq_none_iff.1 hr))]
    exact .idle
  | some rep =>
    obtain ⟨rep', hwrite, hinv', hstore⟩ :=
      write_spec hlvl m rep (hrs rep (List.mem_of_getElem? hr)) k v
    refine ⟨rs.set r rep', by simp only [syncStep, hr, hwrite, setAt], forall_mem_set hrs r hinv', ?_⟩
    rw [if_pos (lt_of_getElem?_some hr), storesOf_set, hstore]
    exact .write (storesOf_getElem? rs r rep hr)

/-- About the state after `ops`; at every step too, a prefix of a schedule being a schedule. -/
theorem syncRun_inv {lvl : K → Nat} (hlvl : ∀ k, lvl k < 255) {hc : HashCfg K V D} (m : Merge)
    {rs : List (Replica K V D)} (hrs : ∀ r ∈ rs, RInv lvl hc r) (ops : List (SyncOp K V)) :
    ∃ rs', syncRun lvl hc m rs ops = .ok rs' ∧ rs'.length = rs.length ∧ ∀ r ∈ rs', RInv lvl hc r := by
  induction ops generalizing rs with
  | nil => exact ⟨rs, rfl, rfl, hrs⟩
  | cons op ops ih =>
    have : ∃ rs1, syncStep lvl hc m rs op = .ok rs1 ∧ (∀ r ∈ rs1, RInv lvl hc r) ∧
        rs1.length = rs.length := by
      cases op with
      | write r k v =>
        obtain ⟨rs1, h, hi, hst⟩ := syncStep_write hlvl m hrs r k v
        exact ⟨rs1, h, hi, hst.length_replicas⟩
      | pull i j =>
        obtain ⟨rs1, h, hi, hst, -⟩ := syncStep_pull hlvl m hrs i j
        exact ⟨rs1, h, hi, hst.length_replicas⟩
    obtain ⟨rs1, h1, hi1, hl1⟩ := this
    obtain ⟨rs2, h2, hl2, hi2⟩ := ih hi1
    exact ⟨rs2, by simp only [syncRun, h1, h2], hl2.trans hl1, hi2⟩

theorem syncRun_append (lvl : K → Nat) (hc : HashCfg K V D) (m : Merge)
    (rs : List (Replica K V D)) (o1 o2 : List (SyncOp K V)) :
    syncRun lvl hc m rs (o1 ++ o2) =
      (match syncRun lvl hc m rs o1 with
       | .error e => .error e
       | .ok rs' => syncRun lvl hc m rs' o2) := by
  induction o1 generalizing rs with
  | nil => rfl
  | cons op o1 ih =>
    simp only [List.cons_append, syncRun]
    cases h : syncStep lvl hc m rs op with
    | error e => rfl
    | ok rs' => exact ih rs'

/-- The join of everything ever written to key `k` by the write operations of a schedule. -/
def written (ops : List (SyncOp K V)) (k : K) : Option V :=
  ops.foldl (fun acc op =>
    match op with
    | .write _ k' v => if k' = k then (match acc with | none => some v | some w => some (max w v)) else acc
    | .pull _ _ => acc) none

theorem written_snoc_write (ops : List (SyncOp K V)) (r : Nat) (kw : K) (v : V) (k : K) :
    written (ops ++ [SyncOp.write r kw v]) k = optMax (written ops k) (lookupKV k [(kw, v)]) := by
  unfold written
  rw [List.foldl_append]
  simp only [List.foldl_cons, List.foldl_nil, lookupKV]
  split
  · cases List.foldl _ none ops <;> rfl
  · exact (optMax_none _).symm

theorem written_snoc_pull (ops : List (SyncOp K V)) (i j : Nat) (k : K) :
    written (ops ++ [SyncOp.pull i j]) k = written ops k := by
  unfold written
  rw [List.foldl_append]
  rfl

theorem lookup_absorbStore_join (s items : List (K × V)) (hi : KSorted items) (k : K) :
    lookupKV k (absorbStore .joinMax s items) = optMax (lookupKV k s) (lookupKV k items) := by
  rw [lookup_absorbStore .joinMax s items hi k, ← pullLk_joinMax]
  cases lookupKV k items <;> rfl

/-- Receiver, sender, receiver after: keywise untouched or joined, as absorbing `fetch sb R` does
for any `R`. -/
def PartJoin (sa sb sa' : List (K × V)) : Prop :=
  ∀ k, lookupKV k sa' = lookupKV k sa ∨ lookupKV k sa' = optMax (lookupKV k sa) (lookupKV k sb)

theorem partJoin_absorb_fetch (s t : List (K × V)) (ht : KSorted t) (R : List (DR K)) :
    PartJoin s t (absorbStore .joinMax s (fetch t R)) := by
  intro k
  rw [lookup_absorb_fetch .joinMax s t ht R k, pullLk_joinMax]
  split
  · exact Or.inr rfl
  · exact Or.inl rfl

theorem partJoin_self {s s' : List (K × V)} (hs : KSorted s) (hs' : KSorted s')
    (h : PartJoin s s s') : s' = s := by
  apply store_ext _ _ hs' hs
  intro k
  rcases h k with h | h
  · exact h
  · rw [h, optMax_self]

theorem partJoin_le {si sj s' : List (K × V)} (hp : PartJoin si sj s') (k : K) :
    optLe (lookupKV k si) (lookupKV k s') := by
  rcases hp k with e | e
  · rw [e]; exact optLe_refl _
  · rw [e]; exact optLe_optMax_left _ _

/-- `x` is generated by the values written to `k`: some written value lies below it, and it is the
least upper bound of the written values below it (nothing invented). In a linear order this says
that `x` itself was written. -/
def GenBy (ops : List (SyncOp K V)) (k : K) (x : V) : Prop :=
  (∃ r0 v, SyncOp.write r0 k v ∈ ops ∧ v ≤ x) ∧
  ∀ u, (∀ r0 v, SyncOp.write r0 k v ∈ ops → v ≤ x → v ≤ u) → x ≤ u

theorem genBy_write {ops : List (SyncOp K V)} {r0 : Nat} {k : K} {v : V}
    (h : SyncOp.write r0 k v ∈ ops) : GenBy ops k v :=
  ⟨⟨r0, v, h, le_refl _⟩, fun _ hu => hu r0 v h (le_refl _)⟩

theorem genBy_mono {ops ops' : List (SyncOp K V)} (hsub : ∀ op ∈ ops, op ∈ ops') {k : K} {x : V}
    (h : GenBy ops k x) : GenBy ops' k x := by
  obtain ⟨⟨r0, v, hm, hv⟩, hl⟩ := h
  exact ⟨⟨r0, v, hsub _ hm, hv⟩, fun u hu => hl u (fun r1 w hw hwx => hu r1 w (hsub _ hw) hwx)⟩

theorem genBy_sup {ops : List (SyncOp K V)} {k : K} {p q : V} (hp : GenBy ops k p)
    (hq : GenBy ops k q) : GenBy ops k (p ⊔ q) := by
  obtain ⟨⟨r0, v, hm, hv⟩, hl⟩ := hp
  refine ⟨⟨r0, v, hm, le_trans hv le_sup_left⟩, fun u hu => sup_le ?_ ?_⟩
  · exact hl u (fun r1 w hw hwp => hu r1 w hw (le_trans hwp le_sup_left))
  · exact hq.2 u (fun r1 w hw hwq => hu r1 w hw (le_trans hwq le_sup_right))

theorem genBy_optMax {ops : List (SyncOp K V)} {k : K} {x y : Option V} {z : V}
    (hx : ∀ p, x = some p → GenBy ops k p) (hy : ∀ q, y = some q → GenBy ops k q)
    (h : optMax x y = some z) : GenBy ops k z := by
  cases x with
  | none => exact hy z h
  | some p =>
    cases y with
    | none => exact hx z h
    | some q =>
      simp only [optMax, Option.some.injEq] at h
      subst h
      exact genBy_sup (hx p rfl) (hy q rfl)

/-- Safety invariant, on the list of stores, relative to the schedule executed so far: every store
is below the join of everything written (`le`), that join is the LEAST upper bound of the stores —
nothing written is lost (`lub`) — and every stored value is a join of written values (`gen`). -/
structure SGood (ops : List (SyncOp K V)) (S : List (List (K × V))) : Prop where
  le : ∀ s ∈ S, ∀ k, optLe (lookupKV k s) (written ops k)
  lub : ∀ k u, (∀ s ∈ S, optLe (lookupKV k s) u) → optLe (written ops k) u
  gen : ∀ s ∈ S, ∀ k x, lookupKV k s = some x → GenBy ops k x

/-- One store absorbs part of `t`, which `ops'` ⊇ `ops` accounts for: another store of the list, or
the one-entry store of a new write. `hlub`: what `ops'` adds to `written` is already in `s'`. -/
theorem SGood.absorb {ops ops' : List (SyncOp K V)} {S : List (List (K × V))} (h : SGood ops S)
    {i : Nat} {si t s' : List (K × V)} (hi : S[i]? = some si) (hp : PartJoin si t s')
    (hsub : ∀ op ∈ ops, op ∈ ops') (hmono : ∀ k, optLe (written ops k) (written ops' k))
    (hlub : ∀ k u, optLe (written ops k) u → optLe (lookupKV k s') u → optLe (written ops' k) u)
    (htle : ∀ k, optLe (lookupKV k t) (written ops' k))
    (htgen : ∀ k x, lookupKV k t = some x → GenBy ops' k x) : SGood ops' (S.set i s') := by
  have hsi : si ∈ S := List.mem_of_getElem? hi
  refine ⟨?_, ?_, ?_⟩
  · intro s hs k
    rcases List.mem_or_eq_of_mem_set hs with hs | rfl
    · exact optLe_trans (h.le s hs k) (hmono k)
    · have hle := optLe_trans (h.le si hsi k) (hmono k)
      rcases hp k with e | e
      · rw [e]; exact hle
      · rw [e]; exact optMax_le hle (htle k)
  · intro k u hu
    -- `u` bounds the old stores too: the replaced one lies below its replacement
    have hs' := hu s' (List.mem_set (lt_of_getElem?_some hi) s')
    -- putting `si` back gives `S` again
    have hold := forall_mem_set hu i (optLe_trans (partJoin_le hp k) hs')
    rw [List.set_set, set_eq_self hi] at hold
    exact hlub k u (h.lub k u hold) hs'
  · intro s hs k x hx
    rcases List.mem_or_eq_of_mem_set hs with hs | rfl
    · exact genBy_mono hsub (h.gen s hs k x hx)
    · rcases hp k with e | e
      · rw [e] at hx; exact genBy_mono hsub (h.gen si hsi k x hx)
      · rw [e] at hx
        exact genBy_optMax (fun p hp => genBy_mono hsub (h.gen si hsi k p hp)) (htgen k) hx

theorem SGood.snoc_pull {ops : List (SyncOp K V)} {S : List (List (K × V))} (h : SGood ops S)
    (i j : Nat) : SGood (ops ++ [SyncOp.pull i j]) S := by
  refine ⟨?_, ?_, ?_⟩
  · intro s hs k; rw [written_snoc_pull]; exact h.le s hs k
  · intro k u hu; rw [written_snoc_pull]; exact h.lub k u hu
  · intro s hs k x hx
    exact genBy_mono (fun op hop => List.mem_append_left _ hop) (h.gen s hs k x hx)

theorem SGood.fresh (n : Nat) : SGood ([] : List (SyncOp K V)) (List.replicate n ([] : List (K × V))) := by
  refine ⟨?_, ?_, ?_⟩
  · intro s hs k
    rw [List.eq_of_mem_replicate hs]
    exact optLe_none_left _
  · intro k u _
    exact optLe_none_left u
  · intro s hs k x hx
    rw [List.eq_of_mem_replicate hs] at hx
    exact nomatch hx

theorem SGood.replicas {ops : List (SyncOp K V)} {rs : List (Replica K V D)}
    (h : SGood ops (storesOf rs)) :
    (∀ r ∈ rs, ∀ k, optLe (lookupKV k r.store) (written ops k)) ∧
    (∀ k u, (∀ r ∈ rs, optLe (lookupKV k r.store) u) → optLe (written ops k) u) ∧
    (∀ r ∈ rs, ∀ k x, lookupKV k r.store = some x → GenBy ops k x) := by
  refine ⟨?_, ?_, ?_⟩
  · exact fun r hr => h.le _ (mem_storesOf rs r hr)
  · intro k u hu
    refine h.lub k u fun s hs => ?_
    obtain ⟨r, hr, rfl⟩ := List.mem_map.1 hs
    exact hu r hr
  · exact fun r hr => h.gen _ (mem_storesOf rs r hr)

theorem SGood.step {ops w : List (SyncOp K V)} {S S' : List (List (K × V))} (h : SGood ops S)
    (hS : ∀ s ∈ S, KSorted s) (hs : StoreStep .joinMax S w S') : SGood (ops ++ w) S' := by
  cases hs with
  | idle => rwa [List.append_nil]
  | @write r k v s hr =>
    have hw := lookup_absorbStore_join s [(k, v)] (ksorted_cons.2 ⟨nofun, ksorted_nil⟩)
    refine h.absorb (t := [(k, v)]) hr
      (hp := fun k' => Or.inr (hw k'))
      (hsub := fun op hop => List.mem_append_left _ hop)
      (hmono := fun k' => ?_)
      (hlub := fun k' u hWu hsu => ?_)
      (htle := fun k' => ?_)
      (htgen := fun k' x hx => ?_)
    · rw [written_snoc_write]
      exact optLe_optMax_left _ _
    · have hvu : optLe (lookupKV k' [(k, v)]) u := by
        refine optLe_trans ?_ hsu
        rw [hw k']
        exact optLe_optMax_right _ _
      rw [written_snoc_write]
      exact optMax_le hWu hvu
    · rw [written_snoc_write]
      exact optLe_optMax_right _ _
    · simp only [lookupKV] at hx
      split at hx
      next hk =>
        cases hx
        rw [← hk]
        exact genBy_write (List.mem_append_right _ (List.mem_singleton.2 rfl))
      next => cases hx
  | @recv i si sj R hi hj =>
    rw [List.append_nil]
    exact h.absorb (t := sj) hi
      (hp := partJoin_absorb_fetch si sj (hS sj hj) R)
      (hsub := fun _ hop => hop)
      (hmono := fun _ => optLe_refl _)
      (hlub := fun _ _ hWu _ => hWu)
      (htle := h.le sj hj)
      (htgen := h.gen sj hj)

/-- Invariant of a run. `ops`: the history accounted for so far, not the schedule still to run;
`n` stays while `rs` changes (`IsSweep n`, the address conditions). -/
structure Good (lvl : K → Nat) (hc : HashCfg K V D) (ops : List (SyncOp K V)) (n : Nat)
    (rs : List (Replica K V D)) : Prop where
  len : rs.length = n
  inv : ∀ r ∈ rs, RInv lvl hc r
  safe : SGood ops (storesOf rs)

theorem Good.fresh (lvl : K → Nat) (hc : HashCfg K V D) (n : Nat) :
    Good lvl hc [] n (freshReplicas n) :=
  ⟨List.length_replicate, freshReplicas_inv lvl hc n, by
    rw [storesOf_freshReplicas]
    exact SGood.fresh n⟩

theorem Good.step {lvl : K → Nat} {hc : HashCfg K V D} {ops w : List (SyncOp K V)} {n : Nat}
    {rs rs' : List (Replica K V D)} (h : Good lvl hc ops n rs) (hinv : ∀ r ∈ rs', RInv lvl hc r)
    (hst : StoreStep .joinMax (storesOf rs) w (storesOf rs')) : Good lvl hc (ops ++ w) n rs' :=
  ⟨hst.length_replicas.trans h.len, hinv, h.safe.step (sorted_storesOf h.inv) hst⟩

/-- A pull out of range does nothing. The history grows by pulls too (`SGood.snoc_pull`: they do
not count) and ends as the schedule; `PullsFrom` keeps it fixed, `run2_good_from` records writes
only: `SGood` sees no difference. -/
theorem run_good_from {lvl : K → Nat} (hlvl : ∀ k, lvl k < 255) {hc : HashCfg K V D}
    {done : List (SyncOp K V)} {n : Nat} {rs : List (Replica K V D)} (h : Good lvl hc done n rs)
    (todo : List (SyncOp K V)) (hw : ∀ r k v, SyncOp.write r k v ∈ todo → r < n) :
    ∃ rs', syncRun lvl hc .joinMax rs todo = .ok rs' ∧ Good lvl hc (done ++ todo) n rs' := by
  induction todo generalizing done rs with
  | nil => exact ⟨rs, rfl, by rwa [List.append_nil]⟩
  | cons op todo ih =>
    have hstep : ∃ rs1, syncStep lvl hc .joinMax rs op = .ok rs1 ∧
        Good lvl hc (done ++ [op]) n rs1 := by
      cases op with
      | write r k v =>
        obtain ⟨rs1, hs1, hi1, hst⟩ := syncStep_write hlvl .joinMax h.inv r k v
        have hr : r < rs.length := by
          rw [h.len]
          exact hw r k v List.mem_cons_self
        rw [if_pos hr] at hst
        exact ⟨rs1, hs1, h.step hi1 hst⟩
      | pull i j =>
        obtain ⟨rs1, hs1, hi1, hst, -⟩ := syncStep_pull hlvl .joinMax h.inv i j
        have h1 := h.step hi1 hst
        rw [List.append_nil] at h1
        exact ⟨rs1, hs1, h1.len, h1.inv, h1.safe.snoc_pull i j⟩
    obtain ⟨rs1, hs1, h1⟩ := hstep
    obtain ⟨rs2, hs2, h2⟩ := ih h1 fun r k v h => hw r k v (List.mem_cons_of_mem _ h)
    refine ⟨rs2, by simp only [syncRun, hs1, hs2], ?_⟩
    rwa [List.append_assoc] at h2

theorem run_good {lvl : K → Nat} (hlvl : ∀ k, lvl k < 255) (hc : HashCfg K V D)
    (ops : List (SyncOp K V)) (n : Nat) (hw : ∀ r k v, SyncOp.write r k v ∈ ops → r < n) :
    ∃ rs, syncRun lvl hc .joinMax (freshReplicas n : List (Replica K V D)) ops = .ok rs ∧
      Good lvl hc ops n rs :=
  run_good_from hlvl (Good.fresh lvl hc n) ops hw

/-- Safety under the join merge (ANY join-semilattice), for every schedule from fresh replicas in
which every write addresses an existing replica: no replica ever holds more than the join of
everything written; nothing written is lost — for every key the join of everything written is the
LEAST upper bound of what the replicas hold; and nothing is invented — every stored value is a join
of written values. -/
theorem syncRun_safe_join (lvl : K → Nat) (hlvl : ∀ k, lvl k < 255) (hc : HashCfg K V D)
    (n : Nat) (ops : List (SyncOp K V))
    (hw : ∀ op ∈ ops, match op with | .write r _ _ => r < n | .pull i j => i < n ∧ j < n) :
    ∃ rs, syncRun lvl hc .joinMax (freshReplicas n : List (Replica K V D)) ops = .ok rs ∧ rs.length = n ∧
      (∀ r ∈ rs, ∀ k, optLe (lookupKV k r.store) (written ops k)) ∧
      (∀ k u, (∀ r ∈ rs, optLe (lookupKV k r.store) u) → optLe (written ops k) u) ∧
      (∀ r ∈ rs, ∀ k x, lookupKV k r.store = some x → GenBy ops k x) := by
  obtain ⟨rs, hrun, h⟩ := run_good hlvl hc ops n fun r k v h => hw _ h
  exact ⟨rs, hrun, h.len, h.safe.replicas⟩

/-- `¬ some v ≤ x`, which includes `v` incomparable with `x`; decided as `v ⊔ y ≠ y` -/
def lacks (x : Option V) (v : V) : Bool :=
  match x with
  | none => true
  | some y => decide (v ⊔ y ≠ y)

/-- the number of writes whose value `s` has not absorbed yet -/
def phi (ops : List (SyncOp K V)) (s : List (K × V)) : Nat :=
  ops.countP (fun op => match op with
    | .write _ k v => lacks (lookupKV k s) v
    | .pull _ _ => false)

def Psi (ops : List (SyncOp K V)) (S : List (List (K × V))) : Nat := (S.map (phi ops)).sum

theorem lacks_iff (x : Option V) (v : V) : lacks x v = true ↔ ¬ optLe (some v) x := by
  cases x with
  | none => exact ⟨fun _ h => h, fun _ => rfl⟩
  | some y => simp only [lacks, optLe, decide_eq_true_eq, ne_eq, sup_eq_right]

theorem lacks_anti {x x' : Option V} (h : optLe x x') (v : V) (hb : lacks x' v = true) :
    lacks x v = true :=
  (lacks_iff x v).2 fun hv => (lacks_iff x' v).1 hb (optLe_trans hv h)

theorem phi_strict (ops : List (SyncOp K V)) (s s' : List (K × V))
    (h : ∀ k, optLe (lookupKV k s) (lookupKV k s')) (r0 : Nat) (k : K) (z : V)
    (hmem : SyncOp.write r0 k z ∈ ops) (hz : optLe (some z) (lookupKV k s'))
    (hb : ¬ optLe (some z) (lookupKV k s)) : phi ops s' < phi ops s := by
  refine countP_lt ops (fun op _ hop => ?_) (SyncOp.write r0 k z) hmem
    (Bool.eq_false_iff.2 fun hb' => (lacks_iff _ _).1 hb' hz) ((lacks_iff _ _).2 hb)
  cases op with
  | write r k v => exact lacks_anti (h k) v hop
  | pull i j => exact hop

/-- A store that moves lowers its count: by `GenBy` its new value `z` at some key is the lub of the
written values below it, so one of them is not below the old value `a` — else `z ≤ a`, `z = a`. -/
theorem partJoin_phi_lt (ops : List (SyncOp K V)) {si sj s' : List (K × V)} (hsi : KSorted si)
    (hs' : KSorted s') (hp : PartJoin si sj s')
    (hgen : ∀ k x, lookupKV k s' = some x → GenBy ops k x) (hne : s' ≠ si) :
    phi ops s' < phi ops si := by
  obtain ⟨k, hk⟩ := exists_lookup_ne _ _ hs' hsi hne
  have hm := partJoin_le hp k
  cases hz : lookupKV k s' with
  | none =>
    rw [hz] at hm hk
    exact absurd (optLe_antisymm (optLe_none_left _) hm) hk
  | some z =>
    obtain ⟨⟨r1, w, hw, hwz⟩, hleast⟩ := hgen k z hz
    have hex : ∃ r0 v, SyncOp.write r0 k v ∈ ops ∧ v ≤ z ∧ ¬ optLe (some v) (lookupKV k si) := by
      cases hx : lookupKV k si with
      | none => exact ⟨r1, w, hw, hwz, not_optLe_some_none w⟩
      | some a =>
        by_contra hcon
        rw [hz, hx] at hm hk
        have haz : a ≤ z := optLe_some_some.1 hm
        have hza : z ≤ a := hleast a fun r0 v hv hvz =>
          optLe_some_some.1 (not_not.1 fun hva => hcon ⟨r0, v, hv, hvz, hva⟩)
        exact hk (congrArg some (le_antisymm hza haz))
    obtain ⟨r0, v, hv, hvz, hva⟩ := hex
    have hvs' : optLe (some v) (lookupKV k s') := by
      rw [hz]
      exact optLe_some_some.2 hvz
    exact phi_strict ops si s' (partJoin_le hp) r0 k v hv hvs' hva

theorem Psi_le_bound (ops : List (SyncOp K V)) (S : List (List (K × V))) :
    Psi ops S ≤ S.length * ops.length := by
  induction S with
  | nil => exact Nat.zero_le _
  | cons s S ih =>
    have h1 : phi ops s ≤ ops.length := List.countP_le_length
    simp only [Psi, List.map_cons, List.sum_cons, List.length_cons, Nat.succ_mul] at ih ⊢
    omega

def AllEqS (S : List (List (K × V))) : Prop := ∀ s1 ∈ S, ∀ s2 ∈ S, s1 = s2

theorem StoreStep.psi {ops : List (SyncOp K V)} {S S' : List (List (K × V))} (hg : SGood ops S)
    (hS : ∀ s ∈ S, KSorted s) (hst : StoreStep .joinMax S [] S') :
    (S' = S ∨ Psi ops S' < Psi ops S) ∧ (AllEqS S → S' = S) := by
  have hg' : SGood ops S' := by
    have := hg.step hS hst
    rwa [List.append_nil] at this
  cases hst with
  | idle => exact ⟨Or.inl rfl, fun _ => rfl⟩
  | @recv i si sj R hi hj =>
    have hsi := hS si (List.mem_of_getElem? hi)
    have hs' := absorbStore_sorted .joinMax si (fetch sj R) hsi
    have hp := partJoin_absorb_fetch si sj (hS sj hj) R
    generalize absorbStore .joinMax si (fetch sj R) = s' at hg' hs' hp ⊢
    refine ⟨?_, fun hall => ?_⟩
    · by_cases hne : s' = si
      · rw [hne]
        exact Or.inl (set_eq_self hi)
      · -- only the `i`-th summand of `Psi` changes, and drops
        have hlt : phi ops s' < phi ops si := partJoin_phi_lt ops hsi hs' hp
          (hg'.gen _ (List.mem_set (lt_of_getElem?_some hi) _)) hne
        have hsum : Psi ops (S.set i s') + phi ops si = Psi ops S + phi ops s' :=
          sum_map_set (phi ops) S i s' si hi
        exact Or.inr (by omega)
    · have hji : sj = si := hall _ hj _ (List.mem_of_getElem? hi)
      rw [hji] at hp
      rw [partJoin_self hsi hs' hp]
      exact set_eq_self hi

/-- A sweep: a sequence of pulls in which every ordered pair of distinct replicas occurs. -/
def IsSweep (n : Nat) (s : List (SyncOp K V)) : Prop :=
  (∀ op ∈ s, match op with | .pull i j => i < n ∧ j < n | .write _ _ _ => False) ∧
  ∀ i j, i < n → j < n → i ≠ j → SyncOp.pull i j ∈ s

def PullOnly (s : List (SyncOp K V)) : Prop := ∀ op ∈ s, ∃ i j, op = SyncOp.pull i j

theorem IsSweep.pullOnly {n : Nat} {s : List (SyncOp K V)} (h : IsSweep n s) : PullOnly s := by
  intro op hop
  have := h.1 op hop
  cases op with
  | write r k v => exact this.elim
  | pull i j => exact ⟨i, j, rfl⟩

/-- `IsSweep` of a schedule given by its (receiver, sender) pairs, from two facts `decide`
evaluates: `IsSweep`'s own clauses (a `match`; an unbounded `∀ i j, i < n → …`) have no `Decidable`
instance; the bounded forms have, with `∨ i = j` for `i ≠ j → …`. -/
theorem IsSweep.of_pairs {n : Nat} (ps : List (Nat × Nat))
    (h1 : ∀ p ∈ ps, p.1 < n ∧ p.2 < n) (h2 : ∀ i < n, ∀ j < n, (i, j) ∈ ps ∨ i = j) :
    IsSweep n (ps.map fun p => (SyncOp.pull p.1 p.2 : SyncOp K V)) := by
  refine ⟨fun op hop => ?_, fun i j hi hj hij => ?_⟩
  · obtain ⟨p, hp, rfl⟩ := List.exists_of_mem_map hop
    exact h1 p hp
  · exact List.mem_map_of_mem (a := (i, j)) ((h2 i hi j hj).resolve_right hij)

/-- Pulling `sb` into `sa` changes nothing, whichever consistent replicas hold them. About STORES:
a later pull meets them in re-hashed replicas (`pull_store_congr`). -/
def QuietS (lvl : K → Nat) (hc : HashCfg K V D) (sa sb : List (K × V)) : Prop :=
  ∀ ⦃a b a' b' : Replica K V D⦄, RInv lvl hc a → RInv lvl hc b → a.store = sa → b.store = sb →
    pull lvl hc .joinMax a b = .ok (a', b') → a'.store = sa

/-- Vacuous for `i = j` and out of range; `sweeps_run` leans on that. -/
def QuietAt (lvl : K → Nat) (hc : HashCfg K V D) (S : List (List (K × V))) (i j : Nat) : Prop :=
  i ≠ j → ∀ sa sb, S[i]? = some sa → S[j]? = some sb → QuietS lvl hc sa sb

/-- A run `s` of pulls from `rs` to `rs'`, the history `ops` fixed. -/
structure PullsFrom (lvl : K → Nat) (hc : HashCfg K V D) (ops : List (SyncOp K V)) (n : Nat)
    (rs : List (Replica K V D)) (s : List (SyncOp K V)) (rs' : List (Replica K V D)) : Prop where
  run : syncRun lvl hc .joinMax rs s = .ok rs'
  good : Good lvl hc ops n rs'
  /-- the potential dropped, or nothing moved and every pull of `s` is a no-op on these stores:
  `quiet_allEq`'s premise -/
  drop : Psi ops (storesOf rs') < Psi ops (storesOf rs) ∨
    storesOf rs' = storesOf rs ∧ ∀ i j, SyncOp.pull i j ∈ s → QuietAt lvl hc (storesOf rs) i j
  stay : AllEqS (storesOf rs) → storesOf rs' = storesOf rs

theorem PullsFrom.psi_le {lvl : K → Nat} {hc : HashCfg K V D} {ops s : List (SyncOp K V)} {n : Nat}
    {rs rs' : List (Replica K V D)} (h : PullsFrom lvl hc ops n rs s rs') :
    Psi ops (storesOf rs') ≤ Psi ops (storesOf rs) :=
  h.drop.elim le_of_lt fun e => le_of_eq (congrArg (Psi ops) e.1)

theorem PullsFrom.append {lvl : K → Nat} {hc : HashCfg K V D} {ops s₁ s₂ : List (SyncOp K V)}
    {n : Nat} {rs rs₁ rs₂ : List (Replica K V D)} (h₁ : PullsFrom lvl hc ops n rs s₁ rs₁)
    (h₂ : PullsFrom lvl hc ops n rs₁ s₂ rs₂) : PullsFrom lvl hc ops n rs (s₁ ++ s₂) rs₂ where
  run := by
    rw [syncRun_append, h₁.run]
    exact h₂.run
  good := h₂.good
  drop := by
    have hd₂ := h₂.drop
    rcases h₁.drop with hlt | ⟨e₁, q₁⟩
    · exact Or.inl (lt_of_le_of_lt h₂.psi_le hlt)
    · rw [e₁] at hd₂
      rcases hd₂ with hlt | ⟨e₂, q₂⟩
      · exact Or.inl hlt
      · exact Or.inr ⟨e₂, fun i j hmem => (List.mem_append.1 hmem).elim (q₁ i j) (q₂ i j)⟩
  stay hall := by
    have e₁ := h₁.stay hall
    have e₂ := h₂.stay (by rw [e₁]; exact hall)
    exact e₂.trans e₁

theorem PullsFrom.step {lvl : K → Nat} (hlvl : ∀ k, lvl k < 255) {hc : HashCfg K V D}
    {ops : List (SyncOp K V)} {n : Nat} {rs : List (Replica K V D)} (h : Good lvl hc ops n rs)
    (i j : Nat) : ∃ rs', PullsFrom lvl hc ops n rs [.pull i j] rs' := by
  have hinv := h.inv
  obtain ⟨rs', hstep, hinv', hst, hpull⟩ := syncStep_pull hlvl .joinMax hinv i j
  obtain ⟨hmove, hstay⟩ := hst.psi h.safe (sorted_storesOf hinv)
  have hrun : syncRun lvl hc .joinMax rs [.pull i j] = .ok rs' := by simp only [syncRun, hstep]
  have h' := h.step hinv' hst
  rw [List.append_nil] at h'
  rcases hmove.symm with hlt | hsame
  · exact ⟨rs', hrun, h', Or.inl hlt, hstay⟩
  refine ⟨rs', hrun, h', Or.inr ⟨hsame, ?_⟩, hstay⟩
  -- nothing moved: the pull made returned the receiver's store, and so does any pull between
  -- replicas holding these two stores. `i' j' hmem`: a pull of the run; `hne … hsb`: `QuietAt`;
  -- the rest: `QuietS`
  intro i' j' hmem hne sa sb hsa hsb a b a' b' ha hb ea eb hp
  obtain ⟨rfl, rfl⟩ : i' = i ∧ j' = j := by
    rw [List.mem_singleton] at hmem
    exact ⟨(SyncOp.pull.inj hmem).1, (SyncOp.pull.inj hmem).2⟩
  obtain ⟨ri, hi, rfl⟩ := exists_of_storesOf_getElem? hsa
  obtain ⟨rj, hj, rfl⟩ := exists_of_storesOf_getElem? hsb
  obtain ⟨ri', rj', hp', hset⟩ := hpull ri rj hne hi hj
  rw [pull_store_congr .joinMax ha hb (hinv ri (List.mem_of_getElem? hi))
    (hinv rj (List.mem_of_getElem? hj)) ea eb, hp'] at hp
  cases hp
  -- position `i'` holds `ri'.store` after the step (`hset`) and, nothing having moved, `ri.store`
  have hSi := storesOf_getElem? rs i' ri hi
  have hnew : (storesOf rs')[i']? = some _ :=
    (congrArg (·[i']?) hset).trans (List.getElem?_set_self (lt_of_getElem?_some hSi))
  rw [hsame, hSi] at hnew
  exact (Option.some.inj hnew).symm

theorem pulls_run {lvl : K → Nat} (hlvl : ∀ k, lvl k < 255) {hc : HashCfg K V D}
    {ops : List (SyncOp K V)} {n : Nat} {rs : List (Replica K V D)} (h : Good lvl hc ops n rs)
    (s : List (SyncOp K V)) (hs : PullOnly s) : ∃ rs', PullsFrom lvl hc ops n rs s rs' := by
  induction s generalizing rs with
  | nil =>
    exact ⟨rs, rfl, h, Or.inr ⟨rfl, fun _ _ h => nomatch h⟩, fun _ => rfl⟩
  | cons op s ih =>
    obtain ⟨i, j, rfl⟩ := hs _ List.mem_cons_self
    obtain ⟨rs₁, h₁⟩ := PullsFrom.step hlvl h i j
    obtain ⟨rs₂, h₂⟩ := ih h₁.good fun o ho => hs o (List.mem_cons_of_mem _ ho)
    exact ⟨rs₂, h₁.append h₂⟩

/-- All stores are equal, else a pull between a differing pair changes its receiver
(`pull_progress`). -/
theorem quiet_allEq {lvl : K → Nat} (hlvl : ∀ k, lvl k < 255) {hc : HashCfg K V D}
    (hnc : NoCollisions hc) {rs : List (Replica K V D)} (hinv : ∀ r ∈ rs, RInv lvl hc r)
    (hq : ∀ i j, QuietAt lvl hc (storesOf rs) i j) : AllEqS (storesOf rs) := by
  intro s1 hs1 s2 hs2
  obtain ⟨i, hi⟩ := List.mem_iff_getElem?.1 hs1
  obtain ⟨j, hj⟩ := List.mem_iff_getElem?.1 hs2
  by_cases hij : i = j
  · subst hij
    exact Option.some.inj (hi.symm.trans hj)
  by_contra hne
  have hq1 := hq i j hij s1 s2 hi hj
  have hq2 := hq j i (Ne.symm hij) s2 s1 hj hi
  obtain ⟨a, ha, rfl⟩ := exists_of_storesOf_getElem? hi
  obtain ⟨b, hb, rfl⟩ := exists_of_storesOf_getElem? hj
  have hra := hinv a (List.mem_of_getElem? ha)
  have hrb := hinv b (List.mem_of_getElem? hb)
  rcases pull_progress hlvl hnc .joinMax hra hrb hne with
    ⟨a', b', hp, hch⟩ | ⟨b', a', hp, hch⟩
  · exact hch (hq1 hra hrb rfl rfl hp)
  · exact hch (hq2 hrb hra rfl rfl hp)

/-- The induction behind `sweeps_converge`; `hd` is its invariant. -/
theorem sweeps_run {lvl : K → Nat} (hlvl : ∀ k, lvl k < 255) {hc : HashCfg K V D}
    (hnc : NoCollisions hc) {ops : List (SyncOp K V)} {n : Nat} {rs : List (Replica K V D)}
    (h : Good lvl hc ops n rs) (sweeps : List (List (SyncOp K V)))
    (hsw : ∀ s ∈ sweeps, IsSweep n s)
    (hd : Psi ops (storesOf rs) < sweeps.length ∨ AllEqS (storesOf rs)) :
    ∃ rs', syncRun lvl hc .joinMax rs sweeps.flatten = .ok rs' ∧ Good lvl hc ops n rs' ∧
      AllEqS (storesOf rs') := by
  induction sweeps generalizing rs with
  | nil => exact ⟨rs, rfl, h, hd.resolve_left (Nat.not_lt_zero _)⟩
  | cons s ss ih =>
    have hs : IsSweep n s := hsw s List.mem_cons_self
    obtain ⟨rs₁, h₁⟩ := pulls_run hlvl h s hs.pullOnly
    have hnext : Psi ops (storesOf rs₁) < ss.length ∨ AllEqS (storesOf rs₁) := by
      rcases hd with hd | hd
      · rcases h₁.drop with hlt | ⟨e, hq⟩
        · exact Or.inl (Nat.lt_of_lt_of_le hlt (Nat.le_of_lt_succ hd))
        · -- the sweep moved nothing, so it was quiet on every pair below `n`: the replicas agree
          right
          rw [e]
          refine quiet_allEq hlvl hnc h.inv fun i j hij sa sb hsa hsb => ?_
          have hlen : (storesOf rs).length = n := by rw [storesOf, List.length_map, h.len]
          have hi : i < n := by rw [← hlen]; exact lt_of_getElem?_some hsa
          have hj : j < n := by rw [← hlen]; exact lt_of_getElem?_some hsb
          exact hq i j (hs.2 i j hi hj hij) hij sa sb hsa hsb
      · right
        rw [h₁.stay hd]
        exact hd
    obtain ⟨rs₂, hs₂, h₂⟩ := ih h₁.good (fun x hx => hsw x (List.mem_cons_of_mem _ hx)) hnext
    refine ⟨rs₂, ?_, h₂⟩
    rw [List.flatten_cons, syncRun_append, h₁.run]
    exact hs₂

/-- `n * ops.length + 1` sweeps suffice, the potential being at most `n * ops.length`. -/
theorem sweeps_converge {lvl : K → Nat} (hlvl : ∀ k, lvl k < 255) {hc : HashCfg K V D}
    (hnc : NoCollisions hc) {ops : List (SyncOp K V)} {n : Nat} {rs₀ : List (Replica K V D)}
    (h₀ : Good lvl hc ops n rs₀) (sweeps : List (List (SyncOp K V)))
    (hs : ∀ s ∈ sweeps, IsSweep n s) (hlen : n * ops.length + 1 ≤ sweeps.length) :
    ∃ rs, syncRun lvl hc .joinMax rs₀ sweeps.flatten = .ok rs ∧ rs.length = n ∧
      (∀ r ∈ rs, ∀ k, lookupKV k r.store = written ops k) ∧
      (∀ r₁ ∈ rs, ∀ r₂ ∈ rs, r₁.store = r₂.store ∧
        (r₁.tree.genRootHash hc).rootHash = (r₂.tree.genRootHash hc).rootHash) := by
  have hpsi : Psi ops (storesOf rs₀) < sweeps.length := by
    have := Psi_le_bound ops (storesOf rs₀)
    rw [show (storesOf rs₀).length = n by rw [storesOf, List.length_map, h₀.len]] at this
    omega
  obtain ⟨rs, hrun, h, heq⟩ := sweeps_run hlvl hnc h₀ sweeps hs (Or.inl hpsi)
  refine ⟨rs, hrun, h.len, fun r hr k => ?_, fun r₁ h₁ r₂ h₂ => ?_⟩
  · have hm := mem_storesOf rs r hr
    refine optLe_antisymm (h.safe.le _ hm k) (h.safe.lub k _ fun s hs' => ?_)
    rw [heq _ hs' _ hm]
    exact optLe_refl _
  · have hst : r₁.store = r₂.store := heq _ (mem_storesOf rs r₁ h₁) _ (mem_storesOf rs r₂ h₂)
    exact ⟨hst, congrArg Tree.rootHash ((h.inv r₁ h₁).genRootHash_congr (h.inv r₂ h₂) hst)⟩

end Mst

/-! ### Linear orders: the join of everything written is HELD by some replica -/

namespace Mst
variable {K V D : Type} [LinearOrder K] [LinearOrder V] [DecidableEq D]

theorem exists_ub_ne {α : Type} (f : α → Option V) (v : V) (l : List α)
    (h : ∀ a ∈ l, optLe (f a) (some v) ∧ f a ≠ some v) :
    ∃ u, (∀ a ∈ l, optLe (f a) u) ∧ optLe u (some v) ∧ u ≠ some v := by
  induction l with
  | nil => exact ⟨none, fun _ h => (List.not_mem_nil h).elim, optLe_none_left _,
      (Option.some_ne_none v).symm⟩
  | cons a l ih =>
    obtain ⟨u, h1, h2, h3⟩ := ih (fun t ht => h t (List.mem_cons_of_mem _ ht))
    obtain ⟨h4, h5⟩ := h a List.mem_cons_self
    refine ⟨optMax (f a) u, ?_, optMax_le h4 h2, ?_⟩
    · intro t ht
      rcases List.mem_cons.1 ht with rfl | ht
      · exact optLe_optMax_left _ _
      · exact optLe_trans (h1 t ht) (optLe_optMax_right _ _)
    · rcases optMax_choice (f a) u with e | e <;> rw [e]
      · exact h5
      · exact h3

/-- In a linear order a lub of finitely many optional values is one of them, else `exists_ub_ne`
bounds them strictly below it. -/
theorem lub_attained {α : Type} (f : α → Option V) (l : List α) {w : Option V}
    (le : ∀ a ∈ l, optLe (f a) w) (lub : ∀ u, (∀ a ∈ l, optLe (f a) u) → optLe w u)
    (v : V) (hv : w = some v) : ∃ a ∈ l, f a = some v := by
  subst hv
  by_contra hcon
  obtain ⟨u, h1, h2, h3⟩ := exists_ub_ne f v l (fun a ha => ⟨le a ha, fun e => hcon ⟨a, ha, e⟩⟩)
  exact h3 (optLe_antisymm h2 (lub u h1))

theorem attained_of_lub (k : K) (S : List (List (K × V))) (v : V)
    (le : ∀ s ∈ S, optLe (lookupKV k s) (some v))
    (lub : ∀ u, (∀ s ∈ S, optLe (lookupKV k s) u) → optLe (some v) u) :
    ∃ s ∈ S, lookupKV k s = some v :=
  lub_attained (lookupKV k) S le lub v rfl

theorem SGood.att {ops : List (SyncOp K V)} {S : List (List (K × V))} (h : SGood ops S)
    (k : K) (v : V) (hv : written ops k = some v) : ∃ s ∈ S, lookupKV k s = some v :=
  lub_attained (lookupKV k) S (fun s hs => h.le s hs k) (h.lub k) v hv

end Mst
