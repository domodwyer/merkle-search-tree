/-
A history of `MerkleSearchTree::upsert(key, value)` / `root_hash()` calls on a configured tree
(`Model/Api.lean`) IS the tree-level history with level function
`k ↦ level(hasher.hash(k), level_base)` and value digests `hasher.hash(value)`: every theorem about
`run lvl hc ops` applies to API-level histories.
-/
import MstVerif.Model.Api
import MstVerif.Proofs.History
import MstVerif.Proofs.Level

namespace Mst
variable {K D : Type}

theorem Sip.leBytes_length (x : UInt64) : (Sip.leBytes x).length = 8 := by
  simp [Sip.leBytes]

theorem Sip.hash128_length (k0 k1 : UInt64) (bs : List UInt8) : (Sip.hash128 k0 k1 bs).length = 16 := by
  unfold Sip.hash128
  simp only [List.length_append, Sip.leBytes_length]

theorem lenPrefix_length (n : Nat) : (lenPrefix n).length = 8 := Sip.leBytes_length _

theorem TreeBuilder.build_default : (TreeBuilder.default.build : MST K D) = MST.default := rfl

theorem TreeBuilder.build_withHasher_default (h : HasherM) :
    ((TreeBuilder.default.withHasher h).build : MST K D) = MST.newWithHasher h := rfl

theorem TreeBuilder.setters_commute (b : TreeBuilder) (h : HasherM) (n : Nat) :
    (b.withHasher h).withLevelBase n = (b.withLevelBase n).withHasher h := rfl

/-- What `build` stores is exactly what the LAST call of each setter supplied. -/
theorem TreeBuilder.build_spec (b : TreeBuilder) (h : HasherM) (n : Nat) :
    (((b.withHasher h).withLevelBase n).build : MST K D) = { hasher := h, levelBase := n, tree := Tree.empty } ∧
    (((b.withLevelBase n).withHasher h).build : MST K D) = { hasher := h, levelBase := n, tree := Tree.empty } :=
  ⟨rfl, rfl⟩

theorem MST.clone_eq (m : MST K D) : m.clone = m := rfl
theorem MST.cloneFrom_eq (dst src : MST K D) : dst.cloneFrom src = src := rfl

/-- One call on the public API: `upsert(key, &value)` with the value's bytes, or `root_hash()`. -/
inductive AOp (K : Type) where
  | ups (k : K) (w : List UInt8)
  | hash

variable [LinearOrder K]

def MST.step (hc : HashCfg K (List UInt8) D) (e : Enc K) (m : MST K D) : AOp K → Except String (MST K D)
  | .ups k w => m.upsert e k w
  | .hash => .ok (m.genRootHash hc)

def MST.runFrom (hc : HashCfg K (List UInt8) D) (e : Enc K) : MST K D → List (AOp K) → Except String (MST K D)
  | m, [] => .ok m
  | m, op :: ops =>
    match m.step hc e op with
    | .error err => .error err
    | .ok m' => MST.runFrom hc e m' ops

/-- The tree-level operation an API call amounts to under the configuration of `m`. -/
def MST.toOp (m : MST K D) (e : Enc K) : AOp K → Op K (List UInt8)
  | .ups k w => .ups k (m.valueDigest e w)
  | .hash => .hash

theorem MST.step_refines (hc : HashCfg K (List UInt8) D) (e : Enc K) (m : MST K D) (op : AOp K) :
    m.step hc e op =
      match m.tree.step (m.keyLevel e) hc (m.toOp e op) with
      | .error err => .error err
      | .ok t => .ok { m with tree := t } := by
  cases op with
  | ups k w => rfl
  | hash => rfl

/-- A step changes neither the hasher nor the level base. -/
theorem MST.step_cfg (hc : HashCfg K (List UInt8) D) (e : Enc K) (m m' : MST K D) (op : AOp K)
    (h : m.step hc e op = .ok m') : m'.hasher = m.hasher ∧ m'.levelBase = m.levelBase := by
  rw [MST.step_refines] at h
  split at h
  · cases h
  · cases h; exact ⟨rfl, rfl⟩

omit [LinearOrder K] in
theorem MST.keyLevel_congr (e : Enc K) {m m' : MST K D} (h1 : m'.hasher = m.hasher)
    (h2 : m'.levelBase = m.levelBase) :
    m'.keyLevel e = m.keyLevel e := by
  funext k; simp [MST.keyLevel, MST.keyDigest, h1, h2]

omit [LinearOrder K] in
theorem MST.toOp_congr (e : Enc K) {m m' : MST K D} (h1 : m'.hasher = m.hasher) :
    m'.toOp e = m.toOp e := by
  funext op; cases op <;> simp [MST.toOp, MST.valueDigest, h1]

/-- The configuration is carried unchanged. `Mst.runFrom` is qualified: inside a declaration named
`MST.…` a bare `runFrom` means `MST.runFrom`. -/
theorem MST.runFrom_refines (hc : HashCfg K (List UInt8) D) (e : Enc K) (ops : List (AOp K)) (m : MST K D) :
    MST.runFrom hc e m ops =
      match Mst.runFrom (m.keyLevel e) hc m.tree (ops.map (m.toOp e)) with
      | .error err => .error err
      | .ok t => .ok { m with tree := t } := by
  induction ops generalizing m with
  | nil => rfl
  | cons op ops ih =>
    simp only [MST.runFrom, List.map_cons, Mst.runFrom]
    rw [MST.step_refines]
    cases hstep : m.tree.step (m.keyLevel e) hc (m.toOp e op) with
    | error err => rfl
    | ok t =>
      -- `{ m with tree := t }` has the key level and the operations of `m` by unfolding
      exact ih _

/-- Last raw value written to `k` by an API history. -/
def lastWriteA (k : K) : Option (List UInt8) → List (AOp K) → Option (List UInt8)
  | acc, [] => acc
  | acc, .ups k' w :: ops => lastWriteA k (if k' = k then some w else acc) ops
  | acc, .hash :: ops => lastWriteA k acc ops

theorem lastWriteFrom_map_toOp (m : MST K D) (e : Enc K) (k : K) (ops : List (AOp K)) (acc : Option (List UInt8)) :
    lastWriteFrom k (acc.map (m.valueDigest e)) (ops.map (m.toOp e)) = (lastWriteA k acc ops).map (m.valueDigest e) := by
  induction ops generalizing acc with
  | nil => rfl
  | cons op ops ih =>
    cases op with
    | ups k' w =>
      simp only [List.map_cons, MST.toOp, lastWriteFrom, lastWriteA]
      rw [← ih, apply_ite (Option.map (m.valueDigest e))]
      rfl
    | hash =>
      simp only [List.map_cons, MST.toOp, lastWriteFrom, lastWriteA]
      exact ih acc

omit [LinearOrder K] in
/-- The level the API computes stays below the `u8` ceiling whenever the hasher's digests are at
most 32 bytes wide — always the case for `SipHasher` (16 bytes). -/
theorem MST.keyLevel_lt_255 (m : MST K D) (e : Enc K)
    (hw : ∀ r, (e.envK r).length ≤ 32) (k : K) : m.keyLevel e k < 255 := by
  unfold MST.keyLevel MST.keyDigest HasherM.hash
  apply level_lt_255
  cases m.hasher with
  | sip k0 k1 => simp [Sip.hash128_length]
  | custom => exact hw _

end Mst
