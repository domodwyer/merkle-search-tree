/-
L0: the level function equals its declarative reference (C14, first half).
-/
import MstVerif.Model.Level

namespace Mst

/-- Reference: two per leading zero byte, one more if the next byte exists and is a (necessarily
non-zero) multiple of the base. -/
def refLevel (d : List UInt8) (base : Nat) : Nat :=
  let z := (d.takeWhile (· = 0)).length
  2 * z + (match d.drop z with
           | [] => 0
           | b :: _ => if b.toNat % base = 0 then 1 else 0)

theorem level_cons_zero (rest : List UInt8) (base : Nat) :
    level (0 :: rest) base = 2 + level rest base := by
  simp [level, baseCountZero]

theorem level_cons_ne_zero (b : UInt8) (rest : List UInt8) (base : Nat) (hb : b ≠ 0) :
    level (b :: rest) base = if b.toNat % base = 0 then 1 else 0 := by
  by_cases hm : b.toNat % base = 0 <;> simp [level, baseCountZero, hb, hm]

theorem refLevel_cons_zero (rest : List UInt8) (base : Nat) :
    refLevel (0 :: rest) base = 2 + refLevel rest base := by
  simp only [refLevel, List.takeWhile_cons, decide_true, if_true, List.length_cons,
    List.drop_succ_cons]
  omega

theorem refLevel_cons_ne_zero (b : UInt8) (rest : List UInt8) (base : Nat) (hb : b ≠ 0) :
    refLevel (b :: rest) base = if b.toNat % base = 0 then 1 else 0 := by
  simp [refLevel, hb]

theorem level_eq_refLevel (d : List UInt8) (base : Nat) : level d base = refLevel d base := by
  induction d with
  | nil => simp [level, refLevel]
  | cons b rest ih =>
    by_cases hb : b = 0
    · subst hb
      rw [level_cons_zero, refLevel_cons_zero, ih]
    · rw [level_cons_ne_zero b rest base hb, refLevel_cons_ne_zero b rest base hb]

/-- No `u8` overflow for digests narrower than 128 bytes: the level is at most `2·width`. -/
theorem level_le (d : List UInt8) (base : Nat) : level d base ≤ 2 * d.length := by
  induction d with
  | nil => exact Nat.le_refl 0
  | cons b rest ih =>
    -- the three arms of the loop body: `2 + level rest base`, `1`, `0`
    unfold level
    rw [List.length_cons]
    split <;> omega

/-- Levels of digests up to 32 bytes wide stay far below the `u8`/255 limit the tree asserts on.
(32 is the widest digest the property quantifies over; by `level_le` any width up to 127 would
do.) -/
theorem level_lt_255 (d : List UInt8) (base : Nat) (h : d.length ≤ 32) : level d base < 255 := by
  have := level_le d base
  omega

end Mst
