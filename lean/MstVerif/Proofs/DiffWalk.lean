/-
What the walk of `diff` records, on ARBITRARY page-range lists: total on valid peer ranges, every
mark justified (`Step`); the first iteration in the configurations the tree-level theorems need;
`diff` as the walk, then `into_diff_vec`.
-/
import MstVerif.Proofs.Walk

-- every statement with `D` takes the section's `[DecidableEq D]`; only the digest test uses it
set_option linter.unusedSectionVars false

namespace Mst
variable {K D : Type} [LinearOrder K] [DecidableEq D]

/-- The walk of `diff`, exposing the builder (`diff` = walk, then `into_diff_vec`). -/
def diffWalk (loc peer : List (PR K D)) : Except String (Builder K) :=
  match peer with
  | [] => .ok Builder.empty
  | root :: _ =>
    match recurseDiff (2 * peer.length + 2) root none peer loc Builder.empty with
    | .error e => .error e
    | .ok (_, _, b) => .ok b

theorem diffWalk_iff {loc : List (PR K D)} {root : PR K D} {rest : List (PR K D)} {b : Builder K} :
    diffWalk loc (root :: rest) = .ok b ↔
    ∃ peer' loc' d, Walk root none (root :: rest) loc Builder.empty peer' loc' b d := by
  unfold diffWalk
  dsimp only
  constructor
  · intro h
    split at h
    · cases h
    · rename_i peer' loc' b' hD
      cases h
      obtain ⟨d, hD⟩ := recurseDiff_ok_iff.1 hD
      exact ⟨peer', loc', d, (walk_sound _).1 hD⟩
  · rintro ⟨peer', loc', d, hw⟩
    -- `diff` supplies `2·|peer| + 2` fuel, one more than `Walk.complete` asks for
    rw [recurseDiff_ok_iff.2 ⟨d, hw.complete _ (by omega)⟩]

/-! The caller picks `PP`, `LP`, predicates on peer and on local pages: if all pages the walk sees
satisfy them, every mark is made of bounds of such pages (`(· ∈ peer)`: bounds of the input;
`fun _ => True`: just the geometry). -/

/-- A range pushed inconsistent, inside `root`. The leaf branch starts it at `root.start` or
`last_p.end` (diff.rs:237-240), ends it at `p.end` or the next local start (:245-248); mark (:313)
and drain (:174) push `(p.start, p.end)`. -/
def BadOK (PP LP : PR K D → Prop) (root : PR K D) (r : DR K) : Prop :=
  (root.start ≤ r.1 ∧ r.2 ≤ root.end_) ∧
  (∃ p, PP p ∧ (r.1 = p.start ∨ r.1 = p.end_)) ∧
  ((∃ p, PP p ∧ r.2 = p.end_) ∨ (∃ l, LP l ∧ r.2 = l.start))

theorem BadOK.within {PP LP : PR K D → Prop} {root : PR K D} {r : DR K}
    (h : BadOK PP LP root r) : root.start ≤ r.1 ∧ r.2 ≤ root.end_ := h.1

theorem BadOK.start {PP LP : PR K D → Prop} {root : PR K D} {r : DR K}
    (h : BadOK PP LP root r) : ∃ p, PP p ∧ (r.1 = p.start ∨ r.1 = p.end_) := h.2.1

theorem BadOK.end_ {PP LP : PR K D → Prop} {root : PR K D} {r : DR K}
    (h : BadOK PP LP root r) : (∃ p, PP p ∧ r.2 = p.end_) ∨ ∃ l, LP l ∧ r.2 = l.start := h.2.2

/-- The range of a peer page inside `root`, as the mark and the drain push it. -/
theorem BadOK.of_page {PP LP : PR K D → Prop} {root p : PR K D}
    (hsup : root.start ≤ p.start ∧ p.end_ ≤ root.end_) (hp : PP p) :
    BadOK PP LP root (p.start, p.end_) :=
  ⟨hsup, ⟨p, hp, Or.inl rfl⟩, Or.inl ⟨p, hp, rfl⟩⟩

/-- A range pushed consistent: `(p.start, p.end)` at the mark, the digests of `p` and of the local
page being equal (diff.rs:292-300). -/
def GoodOK (PP LP : PR K D → Prop) (g : DR K) : Prop :=
  ∃ p, PP p ∧ ∃ l, LP l ∧ g = (p.start, p.end_) ∧ l.hash = p.hash

theorem GoodOK.peer {PP LP : PR K D → Prop} {g : DR K} (h : GoodOK PP LP g) :
    ∃ p, PP p ∧ g = (p.start, p.end_) := by
  obtain ⟨p, hp, -, -, e, -⟩ := h
  exact ⟨p, hp, e⟩

/-- Not one step: `b'` is `b` extended by any number of justified marks. Only `bad` is said to be
kept (first clause): `diffWalk_head_within` follows one inconsistent mark to the end of the walk. -/
def Step (PP LP : PR K D → Prop) (root : PR K D) (b b' : Builder K) : Prop :=
  (∀ r ∈ b.bad, r ∈ b'.bad) ∧
  (∀ r ∈ b'.bad, r ∈ b.bad ∨ BadOK PP LP root r) ∧
  (∀ g ∈ b'.good, g ∈ b.good ∨ GoodOK PP LP g)

theorem Step.bad_subset {PP LP : PR K D → Prop} {root : PR K D} {b b' : Builder K}
    (h : Step PP LP root b b') {r : DR K} (hr : r ∈ b.bad) : r ∈ b'.bad :=
  h.1 r hr

theorem Step.bad_new {PP LP : PR K D → Prop} {root : PR K D} {b b' : Builder K}
    (h : Step PP LP root b b') {r : DR K} (hr : r ∈ b'.bad) : r ∈ b.bad ∨ BadOK PP LP root r :=
  h.2.1 r hr

theorem Step.good_new {PP LP : PR K D → Prop} {root : PR K D} {b b' : Builder K}
    (h : Step PP LP root b b') {g : DR K} (hg : g ∈ b'.good) : g ∈ b.good ∨ GoodOK PP LP g :=
  h.2.2 g hg

theorem Step.refl (PP LP : PR K D → Prop) (root : PR K D) (b : Builder K) :
    Step PP LP root b b :=
  ⟨fun _ h => h, fun _ h => Or.inl h, fun _ h => Or.inl h⟩

theorem Step.trans {PP LP : PR K D → Prop} {root : PR K D} {b1 b2 b3 : Builder K}
    (h1 : Step PP LP root b1 b2) (h2 : Step PP LP root b2 b3) : Step PP LP root b1 b3 :=
  ⟨fun _ h => h2.bad_subset (h1.bad_subset h),
   fun _ hr => (h2.bad_new hr).elim h1.bad_new Or.inr,
   fun _ hg => (h2.good_new hg).elim h1.good_new Or.inr⟩

theorem BadOK.mono {PP LP : PR K D → Prop} {root p : PR K D} {r : DR K}
    (hsup : root.start ≤ p.start ∧ p.end_ ≤ root.end_) (h : BadOK PP LP p r) :
    BadOK PP LP root r :=
  ⟨⟨le_trans hsup.1 h.1.1, le_trans h.1.2 hsup.2⟩, h.2⟩

theorem Step.mono {PP LP : PR K D → Prop} {root p : PR K D} {b b' : Builder K}
    (hsup : root.start ≤ p.start ∧ p.end_ ≤ root.end_) (h : Step PP LP p b b') :
    Step PP LP root b b' :=
  ⟨fun _ => h.bad_subset,
   fun _ hr => (h.bad_new hr).imp_right (BadOK.mono hsup),
   fun _ => h.good_new⟩

theorem Step.append_bad {PP LP : PR K D → Prop} {root : PR K D} (b : Builder K) {l : List (DR K)}
    (h : ∀ r ∈ l, BadOK PP LP root r) : Step PP LP root b { b with bad := b.bad ++ l } :=
  ⟨fun _ hr => List.mem_append_left _ hr,
   fun r hr => (List.mem_append.1 hr).imp_right (h r), fun _ hg => Or.inl hg⟩

theorem Step.append_good {PP LP : PR K D → Prop} {root : PR K D} (b : Builder K) {l : List (DR K)}
    (h : ∀ r ∈ l, GoodOK PP LP r) : Step PP LP root b { b with good := b.good ++ l } :=
  ⟨fun _ hr => hr, fun _ hr => Or.inl hr, fun r hr => (List.mem_append.1 hr).imp_right (h r)⟩

theorem Step.inconsistent {PP LP : PR K D → Prop} {root : PR K D} {b b' : Builder K} {s e : K}
    (h : b.inconsistent s e = .ok b') (hok : BadOK PP LP root (s, e)) :
    Step PP LP root b b' := by
  obtain ⟨-, rfl⟩ := Builder.inconsistent_eq_ok.1 h
  exact Step.append_bad b fun r hr => List.mem_singleton.1 hr ▸ hok

theorem Step.consistent {PP LP : PR K D → Prop} {root : PR K D} {b b' : Builder K} {s e : K}
    (h : b.consistent s e = .ok b') (hok : GoodOK PP LP (s, e)) :
    Step PP LP root b b' := by
  obtain ⟨-, rfl⟩ := Builder.consistent_eq_ok.1 h
  exact Step.append_good b fun r hr => List.mem_singleton.1 hr ▸ hok

theorem Step.mark {PP LP : PR K D → Prop} {root p l : PR K D} {b b1 : Builder K}
    {peer1 peer2 : List (PR K D)} (hm : mark p l b peer1 = (b1, peer2))
    (hsup : root.start ≤ p.start ∧ p.end_ ≤ root.end_) (hp : PP p) (hl : LP l) :
    Step PP LP root b b1 := by
  rcases mark_cases hm with ⟨hh, rfl, -⟩ | ⟨hh, rfl, -⟩
  · exact Step.append_good b fun r hr => by
      obtain rfl := List.mem_singleton.1 hr
      exact ⟨p, hp, l, hl, rfl, hh⟩
  · exact Step.append_bad b fun r hr => by
      obtain rfl := List.mem_singleton.1 hr
      exact .of_page hsup hp

theorem Step.drain {PP LP : PR K D → Prop} {p : PR K D} {ps pa : List (PR K D)} {bs ba : Builder K}
    (hdrain : drainSubtree p ps bs = .ok (pa, ba)) (hps : ∀ v ∈ ps, PP v) : Step PP LP p bs ba := by
  obtain ⟨pre, rfl, hpre, -, rfl⟩ := drainSubtree_ok hdrain
  refine Step.append_bad bs fun r hr => ?_
  obtain ⟨v, hv, rfl⟩ := List.mem_map.1 hr
  exact .of_page ((supersetOf_iff p v).1 (hpre v hv).1) (hps v (List.mem_append_left _ hv))

theorem Walk.step (PP LP : PR K D → Prop) {root : PR K D} {lastP peer loc b peer' loc' b' d}
    (h : Walk root lastP peer loc b peer' loc' b' d) :
    PP root → (∀ v, lastP = some v → PP v ∧ root.start ≤ v.end_) →
    (∀ r ∈ peer, PP r) → (∀ r ∈ loc, LP r) → Step PP LP root b b' := by
  induction h with
  | stop => intros; exact Step.refl ..
  | @leaf root lastP p peer1 loc b hp hl =>
    intro hroot hlast hpeer hloc
    unfold leafB
    split_ifs
    · exact Step.refl ..
    · have hsup := (supersetOf_iff root p).1 hp
      refine Step.append_bad b fun r hr => ?_
      obtain rfl := List.mem_singleton.1 hr
      -- inside `root` (two bounds), where it starts, where it ends
      refine ⟨⟨?_, ?_⟩, ?_, ?_⟩
      · cases lastP with
        | none => exact le_refl _
        | some v => exact (hlast v rfl).2
      · exact le_trans (walkEnd_le p loc) hsup.2
      · cases lastP with
        | none => exact ⟨root, hroot, Or.inl rfl⟩
        | some v => exact ⟨v, (hlast v rfl).1, Or.inr rfl⟩
      · rcases walkEnd_eq p loc with e | ⟨lh, hm, e⟩
        · exact Or.inl ⟨p, hpeer p (List.mem_cons_self ..), e⟩
        · exact Or.inr ⟨lh, hloc lh hm, e⟩
    · exact Step.refl ..
  | descend hp hl hsl hv hm hsub hdrain hrest hd ih1 ih2 =>
    intro hroot hlast hpeer hloc
    have hsup := (supersetOf_iff _ _).1 hp
    have hpp := hpeer _ List.mem_cons_self
    have hlp := (shrinkLocal_fst hsl).elim (fun e => e ▸ hloc _ List.mem_cons_self)
      fun hmem => hloc _ (List.mem_cons_of_mem _ hmem)
    obtain ⟨hps, hpa, hls⟩ := descend_cursors hsl hm hsub.suffix hdrain
    have hpeer1 := (List.forall_mem_cons.1 hpeer).2
    have hloc1 := (List.forall_mem_cons.1 hloc).2
    have hs1 := ih1 hpp (fun _ e => by cases e)
      (fun r hr => hpeer1 r ((mark_suffix hm).subset hr))
      (fun r hr => hloc1 r ((shrinkLocal_suffix hsl).subset hr))
    have hs2 : Step PP LP _ _ _ := Step.drain hdrain fun v hmem => hpeer1 v (hps.subset hmem)
    -- the rest of the loop starts from `last_p = p`, whose end lies inside `root`
    have hs3 := ih2 hroot (fun v e => by cases e; exact ⟨hpp, le_trans hsup.1 hv⟩)
      (fun r hr => hpeer1 r (hpa.subset hr)) (fun r hr => hloc1 r (hls.subset hr))
    -- the mark; below `p` the sub-walk and the drain, widened to `root`; the rest of the loop
    exact (Step.mark hm hsup hpp hlp).trans (((hs1.trans hs2).mono hsup).trans hs3)

theorem Walk.valid {root : PR K D} {lastP peer loc b peer' loc' b' d}
    (h : Walk root lastP peer loc b peer' loc' b' d) :
    DRValid b.bad ∧ DRValid b.good → DRValid b'.bad ∧ DRValid b'.good := by
  induction h with
  | stop => exact id
  | @leaf root lastP p peer1 loc b hp hl =>
    intro hb
    unfold leafB
    split_ifs with _ hse
    · exact hb
    · exact ⟨List.forall_mem_append.2 ⟨hb.1, List.forall_mem_singleton.2 hse⟩, hb.2⟩
    · exact hb
  | descend hp hl hsl hv hm hsub hdrain hrest hd ih1 ih2 =>
    intro hb
    obtain ⟨pre, -, hpre, -, rfl⟩ := drainSubtree_ok hdrain
    have hp1 : DRValid [(_, _)] := List.forall_mem_singleton.2 hv
    have h2 := ih1 (by
      rcases mark_cases hm with ⟨-, rfl, -⟩ | ⟨-, rfl, -⟩
      · exact ⟨hb.1, List.forall_mem_append.2 ⟨hb.2, hp1⟩⟩
      · exact ⟨List.forall_mem_append.2 ⟨hb.1, hp1⟩, hb.2⟩)
    refine ih2 ⟨List.forall_mem_append.2 ⟨h2.1, fun r hr => ?_⟩, h2.2⟩
    obtain ⟨v, hv, rfl⟩ := List.mem_map.1 hr
    exact (hpre v hv).2

/-- What the walk records: every mark is justified, by pages of the two lists. -/
theorem diffWalk_marks {loc peer : List (PR K D)} {b : Builder K} (h : diffWalk loc peer = .ok b) :
    (∀ r ∈ b.bad, ∃ root ∈ peer.head?, BadOK (· ∈ peer) (· ∈ loc) root r) ∧
    ∀ g ∈ b.good, GoodOK (· ∈ peer) (· ∈ loc) g := by
  cases peer with
  | nil => cases h; exact ⟨nofun, nofun⟩
  | cons root rest =>
    obtain ⟨_, _, _, hw⟩ := diffWalk_iff.1 h
    have hs := hw.step (· ∈ root :: rest) (· ∈ loc) List.mem_cons_self (fun _ e => by cases e)
      (fun _ hr => hr) (fun _ hr => hr)
    -- the walk started from the empty builder: no mark is an old one
    exact ⟨fun r hr => ⟨root, rfl, (hs.bad_new hr).resolve_left List.not_mem_nil⟩,
      fun g hg => (hs.good_new hg).resolve_left List.not_mem_nil⟩

theorem diffWalk_total (loc peer : List (PR K D)) (hp : PRValid peer) :
    ∃ b, diffWalk loc peer = .ok b ∧ DRValid b.bad ∧ DRValid b.good := by
  have he : DRValid (Builder.empty : Builder K).bad ∧ DRValid (Builder.empty : Builder K).good :=
    ⟨fun _ h => (List.not_mem_nil h).elim, fun _ h => (List.not_mem_nil h).elim⟩
  cases peer with
  | nil => exact ⟨Builder.empty, rfl, he⟩
  | cons root rest =>
    obtain ⟨_, _, b, _, hw⟩ := Walk.total root none (root :: rest) loc Builder.empty hp
    exact ⟨b, diffWalk_iff.2 ⟨_, _, _, hw⟩, hw.valid he⟩

/-- The first iteration when the NEXT local page is not within the peer root (diff.rs:210-263). -/
theorem diffWalk_leaf {loc : List (PR K D)} {root : PR K D} (rest : List (PR K D))
    (hl : advWithin root loc = (none, loc)) :
    diffWalk loc (root :: rest) = .ok (leafB root none root loc Builder.empty) :=
  diffWalk_iff.2 ⟨rest, loc, 0, .leaf (supersetOf_refl root) hl⟩

theorem diffWalk_local_empty (root : PR K D) (rest : List (PR K D)) (hr : root.start ≤ root.end_) :
    diffWalk ([] : List (PR K D)) (root :: rest) =
      .ok { bad := [(root.start, root.end_)], good := [] } := by
  rw [diffWalk_leaf rest rfl, leafB, locSup, if_neg Bool.false_ne_true, walkStart, walkEnd, if_pos hr]
  rfl

/-- Partially overlapping or disjoint spans: neither head contains the other. -/
theorem diffWalk_peer_first (lh : PR K D) (lt : List (PR K D)) (root : PR K D)
    (rest : List (PR K D)) (hv : root.start ≤ root.end_) (h1 : root.start < lh.start)
    (h2 : root.end_ < lh.end_) :
    diffWalk (lh :: lt) (root :: rest) =
      .ok { bad := [(root.start, min lh.start root.end_)], good := [] } := by
  have hn1 : root.supersetOf lh = false := (supersetOf_eq_false _ _).2 fun h => not_le_of_gt h2 h.2
  have hn2 : lh.supersetOf root = false := (supersetOf_eq_false _ _).2 fun h => not_le_of_gt h1 h.1
  have hl : advWithin root (lh :: lt) = (none, lh :: lt) :=
    advWithin_eq_none.2 fun _ hv => by cases hv; exact hn1
  rw [diffWalk_leaf rest hl, leafB, locSup, hn2, if_neg Bool.false_ne_true, walkEnd_cons, walkStart,
    if_pos (le_min (le_of_lt h1) hv)]
  rfl

/-- The peer root contains the local head, no later local page contains the peer root, and the
digests differ: the whole root range is marked inconsistent. -/
theorem diffWalk_head_within (l0 : PR K D) (lt : List (PR K D)) (root : PR K D)
    (rest : List (PR K D)) (hv : root.start ≤ root.end_)
    (h1 : root.supersetOf l0 = true)
    (h2 : ∀ v, lt.head? = some v → v.supersetOf root = false)
    (hh : l0.hash ≠ root.hash) (b : Builder K)
    (h : diffWalk (l0 :: lt) (root :: rest) = .ok b) :
    (root.start, root.end_) ∈ b.bad := by
  obtain ⟨_, _, _, hw⟩ := diffWalk_iff.1 h
  have hsl : shrinkLocal root l0 lt = (l0, lt) := by
    cases lt with
    | nil => rfl
    | cons v t => simp [shrinkLocal, h2 v rfl]
  -- the first iteration can only be `descend`; it pushes the root range, and marks are never removed
  cases hw with
  | stop h0 => rw [advWithin_cons_pos (supersetOf_refl root)] at h0; cases h0
  | leaf _ hl => rw [advWithin_cons_pos h1] at hl; cases hl
  | descend hp hl hsl' hv' hm hsub hdrain hrest hd =>
    rw [hsl] at hsl'
    cases hsl'
    rw [mark_of_ne hh] at hm
    cases hm
    have hs1 := hsub.step (fun _ => True) (fun _ => True) trivial (fun _ e => by cases e)
      (fun _ _ => trivial) (fun _ _ => trivial)
    obtain ⟨pre, -, -, -, rfl⟩ := drainSubtree_ok hdrain
    have hs2 := hrest.step (fun _ => True) (fun _ => True) trivial
      (fun v e => by cases e; exact ⟨trivial, hv⟩) (fun _ _ => trivial) (fun _ _ => trivial)
    exact hs2.bad_subset (List.mem_append_left _
      (hs1.bad_subset (List.mem_append_right _ (List.mem_singleton.2 rfl))))

/-- The hypotheses hold of every real serialisation: `pageRanges_decomp` supplies them. -/
theorem diffWalk_same (r : PR K D) (rest : List (PR K D)) (hv : r.start ≤ r.end_)
    (hsub : ∀ v ∈ rest, r.supersetOf v = true)
    (hsnd : ∀ v, rest.head? = some v → v.supersetOf r = false) :
    diffWalk (r :: rest) (r :: rest) = .ok { bad := [], good := [(r.start, r.end_)] } := by
  have hsl : shrinkLocal r r rest = (r, rest) := by
    cases rest with
    | nil => rfl
    | cons v t => simp [shrinkLocal, hsnd v rfl]
  have hm : mark r r Builder.empty rest = ({ bad := [], good := [(r.start, r.end_)] }, []) := by
    rw [mark_of_eq rfl, skipSubtree_all r rest hsub]
    rfl
  -- the consistent mark skips the whole rest: sub-walk, drain and rest find no peer page
  exact diffWalk_iff.2 ⟨[], rest, 1, .descend (supersetOf_refl r) (supersetOf_refl r) hsl hv hm
    (hsub := .stop rfl) (hdrain := rfl) (hrest := .stop rfl) (hd := rfl)⟩

/-- The last sentence of C08. -/
theorem diff_empty_peer (loc : List (PR K D)) : diff loc ([] : List (PR K D)) = .ok [] := by
  rfl

theorem diff_eq_walk (loc peer : List (PR K D)) :
    diff loc peer = (match diffWalk loc peer with
                     | .error e => .error e
                     | .ok b => b.intoDiffVec) := by
  cases peer with
  | nil =>
    simp only [diff, diffWalk, Builder.intoDiffVec, Builder.empty, intoVec, List.mergeSort_nil]
    rfl
  | cons root rest =>
    unfold diff diffWalk
    dsimp only
    cases recurseDiff (2 * (root :: rest).length + 2) root none (root :: rest) loc
        Builder.empty with
    | error e => rfl
    | ok res => rfl

structure DiffSpec (loc peer : List (PR K D)) (b : Builder K) (out : List (DR K)) : Prop where
  walk : diffWalk loc peer = .ok b
  diff : diff loc peer = .ok out
  chain : DRChain out
  valid : DRValid out
  out_sub_bad : ∀ x, Covered x out → Covered x b.bad
  bad_diff_good_sub_out : ∀ x, Covered x b.bad → ¬ Covered x b.good → Covered x out
  /-- `into_diff_vec` invents no bound. -/
  se : ∀ S E : K → Prop, SE S E b.bad → SE E S b.good → SE S E out

theorem diff_spec (loc peer : List (PR K D)) (hp : PRValid peer) :
    ∃ b out, DiffSpec loc peer b out := by
  obtain ⟨b, hw, hbv, hgv⟩ := diffWalk_total loc peer hp
  obtain ⟨out, hout, hc, hv, hin, hcov, -⟩ := intoDiffVec_spec b hbv hgv
  refine ⟨b, out, hw, ?_, hc, hv, hin, hcov, fun S E hbs hgs => ?_⟩
  · rw [diff_eq_walk, hw]
    exact hout
  · -- `out` was fixed before `S E` are chosen: the spec run again at `S E` returns the same list
    obtain ⟨out', hout', -, -, -, -, hse⟩ := intoDiffVec_spec_SE S E b hbv hgv hbs hgs
    cases hout.symm.trans hout'
    exact hse

/-- Every mark is made of bounds of peer ranges and local starts; `into_diff_vec` adds none. `S` at
peer ENDS: the leaf branch starts a range at `last_p.end`. `E` at peer STARTS: a piece left of a
consistent range ends at that range's start (`punch_SE`). -/
theorem DiffSpec.bounds {loc peer : List (PR K D)} {b : Builder K} {out : List (DR K)}
    (h : DiffSpec loc peer b out) (S E : K → Prop)
    (hS : ∀ p ∈ peer, S p.start ∧ S p.end_) (hE : ∀ p ∈ peer, E p.start ∧ E p.end_)
    (hL : ∀ l ∈ loc, E l.start) : ∀ r ∈ out, S r.1 ∧ E r.2 := by
  obtain ⟨hbad, hgood⟩ := diffWalk_marks h.walk
  refine h.se S E (fun s hs => ?_) fun g hg => ?_
  · obtain ⟨_, _, hok⟩ := hbad s hs
    constructor
    · obtain ⟨p, hp, e | e⟩ := hok.start
      · rw [e]; exact (hS p hp).1
      · rw [e]; exact (hS p hp).2
    · rcases hok.end_ with ⟨q, hq, e⟩ | ⟨l, hl, e⟩
      · rw [e]; exact (hE q hq).2
      · rw [e]; exact hL l hl
  · obtain ⟨p, hp, rfl⟩ := (hgood g hg).peer
    exact ⟨(hE p hp).1, (hS p hp).2⟩

/-- C13 / C12 (list part): `diff` is total on untrusted input; only the PEER ranges need to be
well formed. -/
theorem diff_total (loc peer : List (PR K D)) (hp : PRValid peer) :
    ∃ out, diff loc peer = .ok out ∧ DRChain out ∧ DRValid out ∧
      (∀ r ∈ out, IsBound r.1 (prBounds (loc ++ peer)) ∧ IsBound r.2 (prBounds (loc ++ peer))) := by
  obtain ⟨b, out, h⟩ := diff_spec loc peer hp
  have hP : ∀ p ∈ peer, IsBound p.start (prBounds (loc ++ peer)) ∧
      IsBound p.end_ (prBounds (loc ++ peer)) :=
    fun _ hp => isBound_prBounds (List.mem_append_right _ hp)
  have hL : ∀ l ∈ loc, IsBound l.start (prBounds (loc ++ peer)) :=
    fun _ hl => (isBound_prBounds (List.mem_append_left _ hl)).1
  exact ⟨out, h.diff, h.chain, h.valid,
    h.bounds (IsBound · (prBounds (loc ++ peer))) (IsBound · (prBounds (loc ++ peer))) hP hP hL⟩

theorem diff_same (r : PR K D) (rest : List (PR K D)) (hv : r.start ≤ r.end_)
    (hsub : ∀ v ∈ rest, r.supersetOf v = true)
    (hsnd : ∀ v, rest.head? = some v → v.supersetOf r = false) :
    diff (r :: rest) (r :: rest) = .ok [] := by
  rw [diff_eq_walk, diffWalk_same r rest hv hsub hsnd]
  exact intoDiffVec_bad_nil _ rfl (List.forall_mem_singleton.2 hv)

end Mst

#print axioms Mst.diff_empty_peer
#print axioms Mst.diff_eq_walk
#print axioms Mst.diffWalk_total
#print axioms Mst.diffWalk_marks
#print axioms Mst.diffWalk_local_empty
#print axioms Mst.diffWalk_head_within
#print axioms Mst.diffWalk_same
#print axioms Mst.diff_total
#print axioms Mst.diff_same
