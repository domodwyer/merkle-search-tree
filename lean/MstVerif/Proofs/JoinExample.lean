/-
A NON-LINEAR join-semilattice for the non-vacuity examples of C05/C06: natural numbers as bit masks
under bitwise or (`1 ⊔ 2 = 3`; `1`, `2` incomparable). The carrier is `Nat`, so the injective page
hasher `perfectCfg` and its `NoCollisions` proof apply unchanged.
-/
import MstVerif.Proofs.Sync
import MstVerif.Proofs.Extras
import Mathlib.Order.Lattice

namespace Mst

/-- natural numbers ordered as bit masks: `a ≤ b ↔ a ||| b = b` -/
def Bits : Type := Nat

namespace Bits

instance : DecidableEq Bits := inferInstanceAs (DecidableEq Nat)
instance (n : Nat) : OfNat Bits n := ⟨(n : Nat)⟩
instance : Max Bits := ⟨fun a b => Nat.lor a b⟩

instance : SemilatticeSup Bits :=
  SemilatticeSup.mk' (fun a b => Nat.or_comm a b) (fun a b c => Nat.or_assoc a b c)
    (fun a => Nat.or_self a)

theorem sup_def (a b : Bits) : a ⊔ b = Nat.lor a b := rfl

theorem le_def (a b : Bits) : a ≤ b ↔ a ⊔ b = b := Iff.rfl

instance (a b : Bits) : Decidable (a ≤ b) := inferInstanceAs (Decidable (a ⊔ b = b))

theorem not_linear : ¬ ((1 : Bits) ≤ 2) ∧ ¬ ((2 : Bits) ≤ 1) ∧ (1 : Bits) ⊔ 2 = 3 ∧
    (1 : Bits) ⊔ 2 ≠ 1 ∧ (1 : Bits) ⊔ 2 ≠ 2 := by
  refine ⟨?_, ?_, ?_, ?_, ?_⟩ <;> decide

def cfg : HashCfg Nat Bits (List UInt8) := perfectCfg

theorem cfg_noCollisions : NoCollisions cfg := perfectCfg_noCollisions

/-- three tree levels -/
def lvl : Nat → Nat := fun k => k % 3

theorem lvl_lt : ∀ k, lvl k < 255 := fun k => Nat.lt_trans (Nat.mod_lt k (by decide)) (by decide)

/-- every key-ascending list of entries is the store of a consistent replica -/
theorem exists_replica (s : List (Nat × Bits)) :
    ∃ r : Replica Nat Bits (List UInt8), RInv lvl cfg r ∧ r.store = absorbStore .peerWins [] s := by
  obtain ⟨r, -, h2, h3⟩ := absorbAll_spec lvl_lt .peerWins Replica.empty
    (Replica.empty_inv lvl cfg) s
  exact ⟨r, h2, h3⟩

end Bits
end Mst
