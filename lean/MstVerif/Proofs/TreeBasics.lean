/-
`content` is the in-order (key, value) list of Model/Traverse. `LvPg`, `LvNd`, `CacheOKPg`,
`CleanPg`, … are recursive definitions, not structures: on a constructor they reduce to a
conjunction. Its parts are taken by the projections below (`hlv.nodes`, `hco.high`, …) or by one
pattern, and given by an anonymous constructor.
-/
import MstVerif.Proofs.Defs
import Mathlib.Order.Basic

namespace Mst
variable {K V D : Type}

section Parts
variable {lvl : K → Nat} {hc : HashCfg K V D} {b L : Nat} {c : Option D} {n tl : Nd K V D}
  {hi l : Pg K V D} {k : K} {v : V}

theorem LvPg.lt_bound (h : LvPg lvl b (.some L c n hi)) : L < b := h.1
theorem LvPg.ne_nil (h : LvPg lvl b (.some L c n hi)) : n ≠ .nil := h.2.1
theorem LvPg.nodes (h : LvPg lvl b (.some L c n hi)) : LvNd lvl L n := h.2.2.1
theorem LvPg.high (h : LvPg lvl b (.some L c n hi)) : LvPg lvl L hi := h.2.2.2
theorem LvRoot.empty (h : LvRoot lvl (.some L c n hi)) (hn : n = .nil) : L = 0 ∧ hi = .none := h.1 hn
theorem LvRoot.nodes (h : LvRoot lvl (.some L c n hi)) : LvNd lvl L n := h.2.1
theorem LvRoot.high (h : LvRoot lvl (.some L c n hi)) : LvPg lvl L hi := h.2.2
theorem LvNd.lt (h : LvNd lvl L (.cons l k v tl)) : LvPg lvl L l := h.1
theorem LvNd.level_eq (h : LvNd lvl L (.cons l k v tl)) : lvl k = L := h.2.1
theorem LvNd.tail (h : LvNd lvl L (.cons l k v tl)) : LvNd lvl L tl := h.2.2
theorem CacheOKPg.cached (h : CacheOKPg hc (.some L c n hi)) (hs : c.isSome) :
    CleanPg hc (.some L c n hi) := h.1 hs
theorem CacheOKPg.nodes (h : CacheOKPg hc (.some L c n hi)) : CacheOKNd hc n := h.2.1
theorem CacheOKPg.high (h : CacheOKPg hc (.some L c n hi)) : CacheOKPg hc hi := h.2.2
theorem CacheOKNd.lt (h : CacheOKNd hc (.cons l k v tl)) : CacheOKPg hc l := h.1
theorem CacheOKNd.tail (h : CacheOKNd hc (.cons l k v tl)) : CacheOKNd hc tl := h.2
theorem CleanPg.cache_eq (h : CleanPg hc (.some L c n hi)) :
    c = some (hc.h (n.hashBytes hc ++ hi.hashBytes hc)) := h.1
theorem CleanPg.nodes (h : CleanPg hc (.some L c n hi)) : CleanNd hc n := h.2.1
theorem CleanPg.high (h : CleanPg hc (.some L c n hi)) : CleanPg hc hi := h.2.2
theorem CleanNd.lt (h : CleanNd hc (.cons l k v tl)) : CleanPg hc l := h.1
theorem CleanNd.tail (h : CleanNd hc (.cons l k v tl)) : CleanNd hc tl := h.2

end Parts

@[simp] theorem Pg.keys_none : (Pg.none : Pg K V D).keys = [] := rfl
@[simp] theorem Pg.keys_some (L : Nat) (c : Option D) (n : Nd K V D) (h : Pg K V D) :
    (Pg.some L c n h).keys = n.keys ++ h.keys := List.map_append
@[simp] theorem Nd.keys_nil : (Nd.nil : Nd K V D).keys = [] := rfl
@[simp] theorem Nd.keys_cons (lt : Pg K V D) (k : K) (v : V) (tl : Nd K V D) :
    (Nd.cons lt k v tl).keys = lt.keys ++ k :: tl.keys := List.map_append

theorem Pg.forall_keys_some {P : K → Prop} {L : Nat} {c : Option D} {n : Nd K V D} {h : Pg K V D} :
    (∀ k ∈ (Pg.some L c n h).keys, P k) ↔ (∀ k ∈ n.keys, P k) ∧ ∀ k ∈ h.keys, P k := by
  rw [Pg.keys_some, List.forall_mem_append]

theorem Nd.forall_keys_cons {P : K → Prop} {lt : Pg K V D} {k : K} {v : V} {tl : Nd K V D} :
    (∀ x ∈ (Nd.cons lt k v tl).keys, P x) ↔ (∀ x ∈ lt.keys, P x) ∧ P k ∧ ∀ x ∈ tl.keys, P x := by
  rw [Nd.keys_cons, List.forall_mem_append, List.forall_mem_cons]

theorem Pg.sorted_some [LT K] {L : Nat} {c : Option D} {n : Nd K V D} {h : Pg K V D} :
    (Pg.some L c n h).Sorted ↔ n.Sorted ∧ h.Sorted ∧ ∀ a ∈ n.keys, ∀ b ∈ h.keys, a < b := by
  rw [Pg.Sorted, Pg.keys_some, List.pairwise_append]
  -- `n.Sorted` unfolds to `n.keys.Pairwise (· < ·)`
  rfl

theorem Nd.sorted_cons [Preorder K] {lt : Pg K V D} {k : K} {v : V} {tl : Nd K V D} :
    (Nd.cons lt k v tl).Sorted ↔
      lt.Sorted ∧ tl.Sorted ∧ (∀ a ∈ lt.keys, a < k) ∧ ∀ b ∈ tl.keys, k < b := by
  rw [Nd.Sorted, Nd.keys_cons, List.pairwise_append, List.pairwise_cons]
  exact ⟨fun ⟨hlt, ⟨hktl, htl⟩, hcross⟩ =>
      ⟨hlt, htl, fun a ha => hcross a ha k List.mem_cons_self, hktl⟩,
    fun ⟨hlt, htl, hltk, hktl⟩ => ⟨hlt, ⟨hktl, htl⟩, fun a ha b hb => by
      rcases List.mem_cons.1 hb with rfl | hb
      · exact hltk a ha
      · exact lt_trans (hltk a ha) (hktl b hb)⟩⟩

/-- Induction along the nodes of one page, not entering the `lt` children. `induction` refuses the
mutual inductive `Nd`; `induction n using Nd.induction_tail` works, with the hypothesis names `nil`,
`cons` as case tags. A proof that enters `lt` (`genPg_specNd`, `shape_uniqueNd`) needs the mutual
recursion. -/
theorem Nd.induction_tail {P : Nd K V D → Prop} (nil : P .nil)
    (cons : ∀ lt k v tl, P tl → P (.cons lt k v tl)) : ∀ n, P n
  | .nil => nil
  | .cons lt k v tl => cons lt k v tl (Nd.induction_tail nil cons tl)

theorem Nd.lastKey?_spec (n : Nd K V D) : n ≠ .nil →
    ∃ kv, n.content.getLast? = some kv ∧ n.lastKey? = some kv.1 := by
  -- along `Nd.lastKey?`: no node; one node; more than one (`ih` for the tail)
  fun_induction Nd.lastKey? n with
  | case1 => exact fun hn => absurd rfl hn
  | case2 lt k v => exact fun _ => ⟨(k, v), by simp [Nd.content], rfl⟩
  | case3 lt k v tl htl ih =>
    intro _
    obtain ⟨kv, h1, h2⟩ := ih htl
    exact ⟨kv, by rw [Nd.content]; simp [List.getLast?_append, List.getLast?_cons, h1], h2⟩

theorem Nd.lastKey?_mem (n : Nd K V D) (hn : n ≠ .nil) : ∃ k, n.lastKey? = some k ∧ k ∈ n.keys :=
  let ⟨kv, h1, h2⟩ := Nd.lastKey?_spec n hn
  ⟨kv.1, h2, List.mem_map_of_mem (List.mem_of_getLast? h1)⟩

theorem Nd.firstKey?_mem : ∀ n : Nd K V D, n ≠ .nil → ∃ k, n.firstKey? = some k ∧ k ∈ n.keys
  | .nil, h => absurd rfl h
  | .cons lt k v tl, _ => ⟨k, rfl, by simp⟩

theorem Nd.isNil_eq_false {n : Nd K V D} (h : n ≠ .nil) : n.isNil = false := by
  cases n with
  | nil => exact absurd rfl h
  | cons => rfl

/-- The shape `assertT site (!n.isNil)` wants. -/
theorem Nd.not_isNil {n : Nd K V D} (h : n ≠ .nil) : (!n.isNil) = true := by
  rw [Nd.isNil_eq_false h]; rfl

theorem LvPg_mono {lvl : K → Nat} {b b' : Nat} (hbb : b ≤ b') :
    ∀ {p : Pg K V D}, LvPg lvl b p → LvPg lvl b' p
  | .none, _ => trivial
  | .some .., hp => ⟨Nat.lt_of_lt_of_le hp.lt_bound hbb, hp.ne_nil, hp.nodes, hp.high⟩

/-- Invalidation in `split_off_lt`: the cached digest stays only where nothing was detached
(`x = none`), and there the page is unchanged. -/
theorem CacheOKPg.ite {hc : HashCfg K V D} {L : Nat} {c : Option D} {n n' : Nd K V D} {h h' : Pg K V D}
    (x : Pg K V D) (hp : CacheOKPg hc (.some L c n h)) (hn : CacheOKNd hc n') (hh : CacheOKPg hc h')
    (hx : x = .none → n' = n ∧ h' = h) :
    CacheOKPg hc (.some L (if x.isSome then none else c) n' h') := by
  cases x with
  | none => obtain ⟨rfl, rfl⟩ := hx rfl; exact hp
  | some => exact ⟨nofun, hn, hh⟩

mutual
theorem LvPg_content_lt (lvl : K → Nat) : (b : Nat) → (p : Pg K V D) → LvPg lvl b p →
    ∀ kv ∈ p.content, lvl kv.1 < b
  | _, .none, _ => nofun
  | _, .some L _ n h, hp => List.forall_mem_append.2
      ⟨fun kv hkv => Nat.lt_of_le_of_lt (LvNd_content_le lvl L n hp.nodes kv hkv) hp.lt_bound,
       fun kv hkv => Nat.lt_trans (LvPg_content_lt lvl L h hp.high kv hkv) hp.lt_bound⟩
theorem LvNd_content_le (lvl : K → Nat) : (L : Nat) → (n : Nd K V D) → LvNd lvl L n →
    ∀ kv ∈ n.content, lvl kv.1 ≤ L
  | _, .nil, _ => nofun
  | L, .cons lt _ _ tl, ⟨hlvlt, hlvk, hlvtl⟩ => List.forall_mem_append.2
      ⟨fun kv hkv => Nat.le_of_lt (LvPg_content_lt lvl L lt hlvlt kv hkv),
       List.forall_mem_cons.2 ⟨Nat.le_of_eq hlvk, LvNd_content_le lvl L tl hlvtl⟩⟩
end

theorem LvPg_some_content_ne_nil {lvl : K → Nat} {b L : Nat} {c : Option D} {n : Nd K V D}
    {h : Pg K V D} (hp : LvPg lvl b (.some L c n h)) : (Pg.some L c n h).content ≠ [] := by
  cases n with
  | nil => exact absurd rfl hp.ne_nil
  | cons lt k v tl => simp [Pg.content, Nd.content]

theorem LvPg_not_mem {lvl : K → Nat} {bound : Nat} {p : Pg K V D} (hlv : LvPg lvl bound p)
    {key : K} (hk : bound ≤ lvl key) : key ∉ p.keys := fun hmem => by
  obtain ⟨kv, hkv, rfl⟩ := List.mem_map.1 hmem
  exact Nat.not_lt.2 hk (LvPg_content_lt lvl bound p hlv kv hkv)

theorem LvRoot_of_LvPg {lvl : K → Nat} {bound : Nat} {p : Pg K V D} (hp : p ≠ .none)
    (hlv : LvPg lvl bound p) : LvRoot lvl p := by
  cases p with
  | none => exact absurd rfl hp
  | some L c n h => exact ⟨fun e => absurd e hlv.ne_nil, hlv.nodes, hlv.high⟩

/-- A root is the empty `Page::new(0, [])` or stratified below `L + 1`; the latter is how a
non-empty root enters the `LvPg` lemmas. Not `elim`: on `h : LvRoot lvl .none`, which is `False`,
`h.elim` is `False.elim`. -/
theorem LvRoot.cases {lvl : K → Nat} {p : Pg K V D} (h : LvRoot lvl p) :
    ∃ L c n hi, p = .some L c n hi ∧ ((L = 0 ∧ n = .nil ∧ hi = .none) ∨ LvPg lvl (L + 1) p) := by
  cases p with
  | none => exact False.elim h
  | some L c n hi =>
    cases n with
    | nil => exact ⟨L, c, .nil, hi, rfl, .inl ⟨(h.empty rfl).1, rfl, (h.empty rfl).2⟩⟩
    | cons lt k v tl => exact ⟨L, c, _, hi, rfl, .inr ⟨Nat.lt_succ_self _, nofun, h.nodes, h.high⟩⟩

end Mst
