/-
Optional values of a join-semilattice, `none` below everything: the order and the join in which
stores, fetched entries and "everything written to a key" are compared keywise (C05, C06).
-/
import Mathlib.Order.Lattice

namespace Mst
variable {V : Type} [SemilatticeSup V]

def optLe : Option V → Option V → Prop
  | none, _ => True
  | some _, none => False
  | some x, some y => x ≤ y

/-- option join, `none` the unit. The vocabulary of C05/C06 spells it out with a `match` of its own
(`pullLk .joinMax`, `joinLookup`, the folds `written`, `written2`); each use site proves its
equation with `optMax`, the lattice facts are proved here once. -/
def optMax : Option V → Option V → Option V
  | none, y => y
  | some x, none => some x
  | some x, some y => some (max x y)

theorem optLe_none_left (y : Option V) : optLe none y := trivial

theorem not_optLe_some_none (a : V) : ¬ optLe (some a) none := id

theorem optLe_some_some {a b : V} : optLe (some a) (some b) ↔ a ≤ b := Iff.rfl

theorem optLe_refl (x : Option V) : optLe x x := by
  cases x with
  | none => exact optLe_none_left _
  | some a => exact optLe_some_some.2 (le_refl a)

theorem optLe_trans {x y z : Option V} (h1 : optLe x y) (h2 : optLe y z) : optLe x z := by
  cases x with
  | none => exact optLe_none_left _
  | some a =>
    cases y with
    | none => exact absurd h1 (not_optLe_some_none a)
    | some b =>
      cases z with
      | none => exact absurd h2 (not_optLe_some_none b)
      | some c =>
        exact optLe_some_some.2 (le_trans (optLe_some_some.1 h1) (optLe_some_some.1 h2))

theorem optLe_antisymm {x y : Option V} (h1 : optLe x y) (h2 : optLe y x) : x = y := by
  cases x with
  | none =>
    cases y with
    | none => rfl
    | some b => exact absurd h2 (not_optLe_some_none b)
  | some a =>
    cases y with
    | none => exact absurd h1 (not_optLe_some_none a)
    | some b =>
      exact congrArg some (le_antisymm (optLe_some_some.1 h1) (optLe_some_some.1 h2))

theorem optLe_optMax_left (x y : Option V) : optLe x (optMax x y) := by
  cases x with
  | none => exact optLe_none_left _
  | some a =>
    cases y with
    | none => exact optLe_refl _
    | some b => exact optLe_some_some.2 le_sup_left

theorem optLe_optMax_right (x y : Option V) : optLe y (optMax x y) := by
  cases y with
  | none => exact optLe_none_left _
  | some b =>
    cases x with
    | none => exact optLe_refl _
    | some a => exact optLe_some_some.2 le_sup_right

theorem optMax_le {x y z : Option V} (h1 : optLe x z) (h2 : optLe y z) : optLe (optMax x y) z := by
  cases x with
  | none => exact h2
  | some a =>
    cases y with
    | none => exact h1
    | some b =>
      cases z with
      | none => exact absurd h1 (not_optLe_some_none a)
      | some c => exact optLe_some_some.2 (sup_le (optLe_some_some.1 h1) (optLe_some_some.1 h2))

theorem optMax_self (x : Option V) : optMax x x = x := by
  cases x with
  | none => rfl
  | some a => exact congrArg some (sup_idem a)

theorem optMax_none (x : Option V) : optMax x none = x := by
  cases x <;> rfl

theorem optMax_comm (x y : Option V) : optMax x y = optMax y x := by
  cases x with
  | none => exact (optMax_none y).symm
  | some a =>
    cases y with
    | none => rfl
    | some b => exact congrArg some (sup_comm a b)

theorem optMax_optMax_right (x y : Option V) : optMax (optMax x y) y = optMax x y := by
  cases x with
  | none => exact optMax_self y
  | some a =>
    cases y with
    | none => rfl
    | some b => exact congrArg some (sup_right_idem a b)

theorem optMax_optMax_left (x y : Option V) : optMax y (optMax x y) = optMax x y := by
  rw [optMax_comm y, optMax_optMax_right]

/-- The join with `y` does not notice whether `y` was fetched into the other side: so each pull of
a round preserves `joinLookup` (`round_spec`). -/
theorem optMax_fetch_left (P : Prop) [Decidable P] (x y : Option V) :
    optMax (if P then optMax x y else x) y = optMax x y := by
  split
  · exact optMax_optMax_right x y
  · rfl

theorem optMax_fetch_right (P : Prop) [Decidable P] (x y : Option V) :
    optMax x (if P then optMax y x else y) = optMax x y := by
  split
  · exact (optMax_optMax_left y x).trans (optMax_comm y x)
  · rfl

end Mst

/-! ### Linear orders: the join of two values is one of them -/

namespace Mst
variable {V : Type} [LinearOrder V]

theorem optMax_choice (x y : Option V) : optMax x y = x ∨ optMax x y = y := by
  cases x with
  | none => right; rfl
  | some a =>
    cases y with
    | none => left; rfl
    | some b =>
      rcases le_total a b with h | h
      · right; simp [optMax, max_eq_right h]
      · left; simp [optMax, max_eq_left h]

theorem optMax_eq_some {x y : Option V} {z : V} (h : optMax x y = some z) : x = some z ∨ y = some z := by
  rcases optMax_choice x y with h' | h'
  · left; rw [← h', h]
  · right; rw [← h', h]

end Mst
