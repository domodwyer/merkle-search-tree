/-
L5: traversal APIs agree (C17) and the serialisation is the pre-order list of page ranges (C11).
Defines `Pg.preorder` and `rangeOf`, the specification Pages and DiffTree build on.
-/
import MstVerif.Proofs.TreeBasics

namespace Mst
variable {K V D : Type}

/-- Feed events to a visitor until it asks to stop. -/
def foldUntil {σ ε : Type} (vis : σ → ε → σ × Bool) : σ → List ε → σ × Bool
  | s, [] => (s, true)
  | s, e :: es =>
    match vis s e with
    | (s', false) => (s', false)
    | (s', true) => foldUntil vis s' es

theorem foldUntil_append {σ ε : Type} (vis : σ → ε → σ × Bool) (s : σ) (l1 l2 : List ε) :
    foldUntil vis s (l1 ++ l2) =
      match foldUntil vis s l1 with
      | (s', false) => (s', false)
      | (s', true) => foldUntil vis s' l2 := by
  -- along `foldUntil`: no event; the visitor stops at the first (`he`); it goes on (`he`, `ih`)
  fun_induction foldUntil vis s l1 with
  | case1 s => rfl
  | case2 s e es s' he => rw [List.cons_append, foldUntil, he]
  | case3 s e es s' he ih =>
    rw [List.cons_append, foldUntil, he]
    exact ih

mutual
theorem runPg_eq_foldUntil {σ : Type} (vis : σ → Event K V D → σ × Bool) :
    ∀ (high : Bool) (p : Pg K V D) (s : σ), runPg vis high p s = foldUntil vis s (tracePg high p)
  | _, .none, _ => rfl
  | high, .some L c n h, s => by
    -- unfolded, with the recursive calls rewritten under the matches, both sides are the same "stop
    -- at the first `false`" cascade; `rfl` identifies the `match` of `runPg` with that of `foldUntil`
    rw [runPg]
    simp only [tracePg, foldUntil, foldUntil_append, runNd_eq_aux vis n, runPg_eq_foldUntil vis true h]
    rfl
theorem runNd_eq_aux {σ : Type} (vis : σ → Event K V D → σ × Bool) :
    ∀ (n : Nd K V D) (s : σ), runNd vis n s = foldUntil vis s (traceNd n)
  | .nil, _ => rfl
  | .cons lt k v tl, s => by
    rw [runNd]
    simp only [traceNd, foldUntil, foldUntil_append, runPg_eq_foldUntil vis false lt, runNd_eq_aux vis tl]
    rfl
end

theorem foldUntil_recVis_none (acc l : List (Event K V D)) :
    foldUntil (recVis none) acc l = (l.reverse ++ acc, true) := by
  induction l generalizing acc with
  | nil => simp [foldUntil]
  | cons e es ih => simp [foldUntil, recVis, ih]

/-- `recVis (some n)` answers `decide (acc.length ≠ n)`: `false` exactly at `j = 0`, where the fold
stops after one more callback. -/
theorem foldUntil_recVis_some (n : Nat) (l : List (Event K V D)) :
    ∀ (acc : List (Event K V D)) (j : Nat), acc.length + j = n →
      (foldUntil (recVis (some n)) acc l).1 = (l.take (j + 1)).reverse ++ acc := by
  induction l with
  | nil => exact fun _ _ _ => rfl
  | cons e es ih =>
    rintro acc (_ | j) hj
    · obtain rfl : acc.length = n := hj
      simp [foldUntil, recVis]
    · have hne : acc.length ≠ n := by omega
      -- `hne`: the visitor answers `true`, the fold goes on from `e :: acc` with `j` wanted
      simp [foldUntil, recVis, hne, ih (e :: acc) j (by simp; omega)]

theorem runRecorded_eq_take (stop : Option Nat) (p : Pg K V D) :
    runRecorded stop p =
      match stop with
      | none => tracePg false p
      | some n => (tracePg false p).take (n + 1) := by
  unfold runRecorded
  rw [runPg_eq_foldUntil]
  cases stop with
  | none => simp [foldUntil_recVis_none]
  | some n => simp [foldUntil_recVis_some n _ [] n (Nat.zero_add n)]

/-- The entry a `visit_node` callback reports. -/
def Event.node? : Event K V D → Option (K × V)
  | .visitNode k v => some (k, v)
  | _ => none

mutual
theorem trace_visitNodes : ∀ (high : Bool) (p : Pg K V D),
    (tracePg high p).filterMap Event.node? = p.content
  | _, .none => rfl
  | high, .some L c n h => by
    simp only [tracePg, Pg.content, List.filterMap_append, List.filterMap_cons, Event.node?,
      traceNd_visitNodes n, trace_visitNodes true h]
theorem traceNd_visitNodes : ∀ (n : Nd K V D),
    (traceNd n).filterMap Event.node? = n.content
  | .nil => rfl
  | .cons lt k v tl => by
    simp only [traceNd, Nd.content, List.filterMap_append, List.filterMap_cons, Event.node?,
      traceNd_visitNodes tl, trace_visitNodes false lt]
end

/-! `NodeIter::next` (node_iter.rs): one equation per arm that goes on or yields (none for the empty
stack and the failing assertion at :112). -/
section
variable (fuel : Nat) (st : List (PageVisit K V D)) (s : VisitState) (L : Nat) (c : Option D)
  (n tl : Nd K V D) (h high : Pg K V D) (k : K) (v : V)

theorem iterNext_pop : iterNext (fuel + 1) (⟨.nil, .none, s⟩ :: st) = iterNext fuel st := rfl

theorem iterNext_high :
    iterNext (fuel + 1) (⟨.nil, .some L c n h, s⟩ :: st) = iterNext fuel (⟨n, h, .unvisited⟩ :: st) := rfl

theorem iterNext_descend :
    iterNext (fuel + 1) (⟨.cons (.some L c n h) k v tl, high, .unvisited⟩ :: st) =
      iterNext fuel (⟨n, h, .unvisited⟩ :: ⟨.cons (.some L c n h) k v tl, high, .descended⟩ :: st) := rfl

theorem iterNext_leaf :
    iterNext (fuel + 1) (⟨.cons .none k v tl, high, .unvisited⟩ :: st) =
      .ok (some (k, v), ⟨tl, high, .unvisited⟩ :: st) := rfl

theorem iterNext_resume (lt : Pg K V D) (hlt : lt.isSome = true) :
    iterNext (fuel + 1) (⟨.cons lt k v tl, high, .descended⟩ :: st) =
      .ok (some (k, v), ⟨tl, high, .unvisited⟩ :: st) := if_pos hlt
end

/-- Nodes a frame has still to yield; a `descended` frame is done with its first node's `lt` subtree. -/
def PageVisit.todo (f : PageVisit K V D) : Nd K V D :=
  match f.state, f.rest with
  | .descended, .cons _ k v tl => .cons .none k v tl
  | _, rest => rest

theorem PageVisit.todo_nil (high : Pg K V D) (s : VisitState) :
    (⟨.nil, high, s⟩ : PageVisit K V D).todo = .nil := by
  cases s
  · rfl
  · rfl

/-- The entries the stack has still to yield, top frame first. -/
def stackContent : List (PageVisit K V D) → List (K × V)
  | [] => []
  | f :: fs => f.todo.content ++ f.high.content ++ stackContent fs

/-- Bounds the loop iterations left: each consumes a page or a node, or returns to a node whose `lt`
page it consumed. -/
def stackPot : List (PageVisit K V D) → Nat
  | [] => 0
  | f :: fs => 2 * f.todo.size + 2 * f.high.size + 1 + stackPot fs

/-- What the assertion at node_iter.rs:112 needs. -/
def frameOK (f : PageVisit K V D) : Prop :=
  f.state = .descended → ∃ lt k v tl, f.rest = .cons lt k v tl ∧ lt.isSome = true

def stackOK (st : List (PageVisit K V D)) : Prop := ∀ f ∈ st, frameOK f

theorem stackOK_cons {f : PageVisit K V D} {st : List (PageVisit K V D)} :
    stackOK (f :: st) ↔ frameOK f ∧ stackOK st := List.forall_mem_cons

theorem frameOK_unvisited (n : Nd K V D) (h : Pg K V D) : frameOK ⟨n, h, .unvisited⟩ :=
  fun hstate => VisitState.noConfusion hstate

/-- One `next()` with `fuel` iterations: nothing is left, or it yields the first entry still to come
and leaves the others. The potential does not grow: one `fuel` bound serves all later calls
(`iterAllGo_spec`). -/
inductive NextSpec (fuel : Nat) (st : List (PageVisit K V D)) : Prop
  | done {st' : List (PageVisit K V D)} (e : iterNext fuel st = .ok (none, st'))
      (hcont : stackContent st = [])
  | yield {kv : K × V} {st' : List (PageVisit K V D)} (e : iterNext fuel st = .ok (some kv, st'))
      (hcont : stackContent st = kv :: stackContent st') (hok : stackOK st')
      (hpot : stackPot st' ≤ stackPot st)

/-- One more round of the loop: same entries to come, less potential. -/
theorem NextSpec.silent {fuel : Nat} {st st2 : List (PageVisit K V D)}
    (ih : stackPot st2 < fuel → NextSpec fuel st2) (hp : stackPot st < fuel + 1)
    (e : iterNext (fuel + 1) st = iterNext fuel st2) (hcont : stackContent st2 = stackContent st)
    (hpot : stackPot st2 < stackPot st) : NextSpec (fuel + 1) st := by
  cases ih (Nat.lt_of_lt_of_le hpot (Nat.le_of_lt_succ hp)) with
  | done h1 h2 => exact .done (e.trans h1) (hcont ▸ h2)
  | yield h1 h2 h3 h4 =>
    exact .yield (e.trans h1) (hcont ▸ h2) h3 (Nat.le_trans h4 (Nat.le_of_lt hpot))

theorem iterNext_spec (fuel : Nat) : ∀ (st : List (PageVisit K V D)),
    stackOK st → stackPot st < fuel → NextSpec fuel st := by
  induction fuel with
  | zero => exact fun _ _ hp => absurd hp (Nat.not_lt_zero _)
  | succ fuel ih =>
    intro st hok hp
    cases st with
    | nil => exact .done rfl rfl
    | cons f st =>
      obtain ⟨rest, high, s⟩ := f
      obtain ⟨hf, hst⟩ := stackOK_cons.1 hok
      have hfresh (n : Nd K V D) (h : Pg K V D) : stackOK (⟨n, h, .unvisited⟩ :: st) :=
        stackOK_cons.2 ⟨frameOK_unvisited n h, hst⟩
      -- last argument of each arm: the count on `stackPot` (a popped frame gives up its `+ 1`, a
      -- yielded entry or entered page its `2 *` share), summed by `simp +arith`
      cases rest with
      | nil =>
        cases high with
        | none =>
          exact .silent (ih st hst) hp (iterNext_pop ..)
            (by rw [stackContent, PageVisit.todo_nil]; rfl)
            (by simp +arith [stackPot])
        | some L c n h =>
          exact .silent (ih _ (hfresh n h)) hp (iterNext_high ..)
            (by rw [stackContent, stackContent, PageVisit.todo_nil]; rfl)
            (by simp +arith [stackPot, PageVisit.todo, Nd.size, Pg.size])
      | cons lt k v tl =>
        cases s with
        | unvisited =>
          cases lt with
          | none =>
            exact .yield (iterNext_leaf ..) rfl
              (hfresh tl high) (by simp +arith [stackPot, PageVisit.todo, Nd.size, Pg.size])
          | some L c n h =>
            -- the one arm needing the factor 2: the frame loses the `lt` page (twice its size, 1
            -- more than nodes plus high page), the new frame costs twice these plus 1: one less
            have hdesc : frameOK ⟨.cons (.some L c n h) k v tl, high, .descended⟩ :=
              fun _ => ⟨_, _, _, _, rfl, rfl⟩
            have hok' := stackOK_cons.2 ⟨frameOK_unvisited n h, stackOK_cons.2 ⟨hdesc, hst⟩⟩
            exact .silent (ih _ hok') hp (iterNext_descend ..)
              (by simp [stackContent, PageVisit.todo, Nd.content, Pg.content])
              (by simp +arith [stackPot, PageVisit.todo, Nd.size, Pg.size])
        | descended =>
          obtain ⟨_, _, _, _, heq, hsome⟩ := hf rfl
          cases heq
          exact .yield (iterNext_resume (hlt := hsome) ..) rfl
            (hfresh tl high) (by simp +arith [stackPot, PageVisit.todo, Nd.size, Pg.size])

theorem iterAllGo_spec (perCall fuel : Nat) : ∀ (st : List (PageVisit K V D))
    (acc : List (K × V)), stackOK st → stackPot st < perCall →
    (stackContent st).length < fuel →
    iterAllGo perCall fuel st acc = .ok (acc.reverse ++ stackContent st) := by
  induction fuel with
  | zero => exact fun _ _ _ _ hl => absurd hl (Nat.not_lt_zero _)
  | succ fuel ih =>
    intro st acc hok hp hl
    rw [iterAllGo]
    cases iterNext_spec perCall st hok hp with
    | done h1 h2 =>
      rw [h1, h2]
      exact congrArg Except.ok (List.append_nil _).symm
    | @yield kv st' h1 h2 h3 h4 =>
      rw [h1, h2]
      rw [h2] at hl
      -- the `match` on the yielded entry reduces at `some kv`
      show iterAllGo perCall fuel st' (kv :: acc) = _
      rw [ih st' (kv :: acc) h3 (Nat.lt_of_le_of_lt h4 hp) (Nat.lt_of_succ_lt_succ hl),
        List.reverse_cons, List.append_assoc]
      rfl

mutual
theorem Pg.content_length_le : ∀ (p : Pg K V D), p.content.length ≤ p.size
  | .none => Nat.le_refl 0
  | .some _ _ n h => by
    have := Nd.content_length_le n
    have := Pg.content_length_le h
    rw [Pg.content, Pg.size, List.length_append]
    omega
theorem Nd.content_length_le : ∀ (n : Nd K V D), n.content.length ≤ n.size
  | .nil => Nat.le_refl 0
  | .cons lt _ _ tl => by
    have := Pg.content_length_le lt
    have := Nd.content_length_le tl
    rw [Nd.content, Nd.size, List.length_append, List.length_cons]
    omega
end

/-- `NodeIter` yields exactly the in-order content (for every tree; no invariant needed), never
trips its assertion and never runs out of fuel. -/
theorem iterAll_eq_content (p : Pg K V D) : iterAll p = .ok p.content := by
  cases p with
  | none => rfl
  | some L c n h =>
    -- `2 * size + 2` serves both loops: it exceeds `stackPot` of the root frame (`2 * size - 1`,
    -- the iterations inside any `next()`) and the number of entries (`≤ size`, the calls)
    have hcont : stackContent [(⟨n, h, .unvisited⟩ : PageVisit K V D)] =
        (Pg.some L c n h).content :=
      List.append_nil _
    have hpot : stackPot [(⟨n, h, .unvisited⟩ : PageVisit K V D)] < 2 * (Pg.some L c n h).size + 2 := by
      simp +arith [stackPot, PageVisit.todo, Pg.size]
    have hlen : (stackContent [(⟨n, h, .unvisited⟩ : PageVisit K V D)]).length
        < 2 * (Pg.some L c n h).size + 2 := by
      have := Pg.content_length_le (.some L c n h)
      rw [hcont]
      omega
    have hok : stackOK [(⟨n, h, .unvisited⟩ : PageVisit K V D)] :=
      stackOK_cons.2 ⟨frameOK_unvisited n h, fun _ hf => (List.not_mem_nil hf).elim⟩
    exact (iterAllGo_spec _ _ _ [] hok hpot hlen).trans (congrArg Except.ok hcont)

mutual
/-- All pages of a subtree in pre-order: page, the subtrees under its keys in key order, high page. -/
def Pg.preorder : Pg K V D → List (Pg K V D)
  | .none => []
  | .some L c n h => .some L c n h :: (n.preorder ++ h.preorder)
def Nd.preorder : Nd K V D → List (Pg K V D)
  | .nil => []
  | .cons lt _ _ tl => lt.preorder ++ tl.preorder
end

/-- Specification twin of `pageRangeOf` (`PageRange::from(&Page)`), read off the content: smallest and
largest key of the page's subtree and its true digest; `none` for the absent page or one without content. -/
def rangeOf (hc : HashCfg K V D) (q : Pg K V D) : Option (PR K D) :=
  match q.content.head?, q.content.getLast?, q.trueHash hc with
  | some a, some b, some d => some { start := a.1, end_ := b.1, hash := d }
  | _, _, _ => none

/-- `rangeOf` read in both directions; the proofs below and in Pages use this, not the `match`. -/
theorem rangeOf_eq_some_iff {hc : HashCfg K V D} {q : Pg K V D} {r : PR K D} :
    rangeOf hc q = some r ↔ ∃ a z d, q.content.head? = some a ∧ q.content.getLast? = some z ∧
      q.trueHash hc = some d ∧ r = { start := a.1, end_ := z.1, hash := d } := by
  unfold rangeOf
  constructor
  · intro h
    split at h
    · rename_i a z d ha hz hd
      cases h
      exact ⟨a, z, d, ha, hz, hd, rfl⟩
    · cases h
  · rintro ⟨a, z, d, ha, hz, hd, rfl⟩
    simp only [ha, hz, hd]

theorem minSubtreeKey_spec {lvl : K → Nat} {b : Nat} (p : Pg K V D) (hlv : LvPg lvl b p)
    (hs : p.isSome = true) : ∃ kv, p.content.head? = some kv ∧ minSubtreeKey p = .ok kv.1 := by
  -- along `minSubtreeKey`: no page; no node; the first node has no child; it has one (`ih`)
  fun_induction minSubtreeKey p generalizing b with
  | case1 => cases hs
  | case2 L c h => exact absurd rfl hlv.ne_nil
  | case3 L c h k v tl => exact ⟨(k, v), rfl, rfl⟩
  | case4 L c h k v tl L' c' n' h' ih =>
    obtain ⟨kv, h1, h2⟩ := ih hlv.nodes.lt rfl
    refine ⟨kv, ?_, h2⟩
    rw [Pg.content, Nd.content]
    simp [List.head?_append, h1]

theorem maxSubtreeKey_spec {lvl : K → Nat} : ∀ {b : Nat} (p : Pg K V D),
    LvPg lvl b p → p.isSome = true →
    ∃ kv, p.content.getLast? = some kv ∧ maxSubtreeKey p = .ok kv.1
  -- no `.none` arm, here and below: `p.isSome = true` has no proof there and Lean closes the case
  | _, .some L c n .none, hlv, _ => by
    obtain ⟨kv, h1, h2⟩ := Nd.lastKey?_spec n hlv.ne_nil
    exact ⟨kv, by simp [Pg.content, h1], by simp [maxSubtreeKey, h2]⟩
  | _, .some L c n (.some L' c' n' h'), hlv, _ => by
    obtain ⟨kv, h1, h2⟩ := maxSubtreeKey_spec (.some L' c' n' h') hlv.high rfl
    refine ⟨kv, ?_, by rw [maxSubtreeKey]; exact h2⟩
    rw [Pg.content]
    simp [List.getLast?_append, h1]

theorem pageRangeOf_eq {lvl : K → Nat} {hc : HashCfg K V D} {b : Nat} :
    ∀ (p : Pg K V D), LvPg lvl b p → p.isSome = true → CleanPg hc p →
      ∃ r, pageRangeOf p = .ok r ∧ rangeOf hc p = some r
  | .some L c n h, hlv, _, hcl => by
    obtain ⟨a, ha, hmin⟩ := minSubtreeKey_spec _ hlv rfl
    obtain ⟨z, hz, hmax⟩ := maxSubtreeKey_spec _ hlv rfl
    obtain rfl := hcl.cache_eq
    exact ⟨⟨a.1, z.1, hc.h (n.hashBytes hc ++ h.hashBytes hc)⟩,
      by simp only [pageRangeOf, hmin, hmax, Pg.cache?],
      rangeOf_eq_some_iff.2 ⟨a, z, _, ha, hz, rfl, rfl⟩⟩

mutual
theorem rangesPg_spec (lvl : K → Nat) (hc : HashCfg K V D) : ∀ (b : Nat) (p : Pg K V D),
    LvPg lvl b p → CleanPg hc p →
    ∃ l, rangesPg p = .ok l ∧ l.map some = p.preorder.map (rangeOf hc)
  | _, .none, _, _ => ⟨[], rfl, rfl⟩
  | b, .some L c n h, hlv, hcl => by
    obtain ⟨r, hr1, hr2⟩ := pageRangeOf_eq _ hlv rfl hcl
    obtain ⟨ln, hn1, hn2⟩ := rangesNd_aux lvl hc n L hlv.nodes hcl.nodes
    obtain ⟨lh, hh1, hh2⟩ := rangesPg_spec lvl hc L h hlv.high hcl.high
    exact ⟨r :: (ln ++ lh), by simp only [rangesPg, hr1, hn1, hh1],
      by simp only [Pg.preorder, List.map_cons, List.map_append, hn2, hh2, hr2]⟩
theorem rangesNd_aux (lvl : K → Nat) (hc : HashCfg K V D) : ∀ (n : Nd K V D) (L : Nat),
    LvNd lvl L n → CleanNd hc n →
    ∃ l, rangesNd n = .ok l ∧ l.map some = n.preorder.map (rangeOf hc)
  | .nil, _, _, _ => ⟨[], rfl, rfl⟩
  | .cons lt k v tl, L, hlv, hcl => by
    obtain ⟨ll, hl1, hl2⟩ := rangesPg_spec lvl hc L lt hlv.lt hcl.lt
    obtain ⟨lt', ht1, ht2⟩ := rangesNd_aux lvl hc tl L hlv.tail hcl.tail
    exact ⟨ll ++ lt', by simp only [rangesNd, hl1, ht1],
      by simp only [Nd.preorder, List.map_append, hl2, ht2]⟩
end

/-- The root of a hashed tree: clean, carrying the root hash, and either without nodes or stratified. -/
theorem Inv.root_cases [LT K] {lvl : K → Nat} {hc : HashCfg K V D} {t : Tree K V D}
    (hinv : Inv lvl hc t) (hh : t.rootHash.isSome) :
    ∃ L d n hi, t.root = .some L (some d) n hi ∧ t.rootHash = some d ∧ CleanPg hc t.root ∧
      (n = .nil ∧ hi = .none ∨ LvPg lvl (L + 1) t.root) := by
  obtain ⟨d, hd⟩ := Option.isSome_iff_exists.1 hh
  obtain ⟨L, c, n, hi, hroot, hcase⟩ := hinv.shape.cases
  have hcache := hinv.rootHash d hd
  have hok := hinv.cacheOK
  rw [hroot] at hcache hok hcase ⊢
  cases hcache
  exact ⟨L, d, n, hi, rfl, hd, hok.cached rfl, hcase.imp_left fun ⟨_, hn, hhi⟩ => ⟨hn, hhi⟩⟩

/-- Two clauses: `serialise_page_ranges` (tree.rs:273) returns `Some(vec![])` for a root without
nodes, but `preorder` lists that root, with `rangeOf = none`. -/
theorem serialise_spec [LT K] {lvl : K → Nat} {hc : HashCfg K V D} {t : Tree K V D}
    (hinv : Inv lvl hc t) (hh : t.rootHash.isSome) :
    ∃ l, t.serialise = .ok (some l) ∧
      (t.root.content = [] → l = []) ∧
      (t.root.content ≠ [] → l.map some = t.root.preorder.map (rangeOf hc)) := by
  obtain ⟨L, d, n, hi, hroot, hrh, hclean, hcase⟩ := hinv.root_cases hh
  rw [hroot] at hclean hcase ⊢
  rcases hcase with ⟨rfl, rfl⟩ | hlv
  · exact ⟨[], by simp [Tree.serialise, hrh, hroot, Pg.nodesNil, Nd.isNil], fun _ => rfl,
      fun hne => absurd rfl hne⟩
  · obtain ⟨l, h1, h2⟩ := rangesPg_spec lvl hc (L + 1) _ hlv hclean
    exact ⟨l, by simp [Tree.serialise, hrh, hroot, Pg.nodesNil, Nd.isNil_eq_false hlv.ne_nil, h1],
      fun e => absurd e (LvPg_some_content_ne_nil hlv), fun _ => h2⟩

/-- No cached root hash: `serialise_page_ranges` returns `None` (C02_gate). -/
theorem serialise_none (t : Tree K V D) (h : t.rootHash = none) : t.serialise = .ok none := by
  simp [Tree.serialise, h]

end Mst
