/-
The interval lists behind `diff` (`range_list.rs`, `diff_builder.rs`) on ARBITRARY valid intervals:
no assertion fires, the output is sorted, disjoint and well-formed; merging keeps the cover,
`into_diff_vec` returns at least bad ∖ good and at most bad; no function invents a bound (`SE`).
-/
import MstVerif.Proofs.Defs
import Mathlib.Order.Defs.LinearOrder
import Mathlib.Order.Basic
-- Not for the `order` tactic. With this import (it brings `Mathlib.Order.Lattice` into scope) `≤`
-- and `<` on `K` elaborate through `instDistribLatticeOfLinearOrder … SemilatticeInf.toPartialOrder`,
-- without it through `LinearOrder.toPartialOrder`. Dropping it, or importing more order theory
-- here, builds without a warning but changes the term (under `pp.explicit`) of `DR.mem`, `DRChain`,
-- `DRValid`, `WChain`, downstream `PRValid`, `BadOK`, `ChainBnd`, `IsNestChain`, `diffWalk`,
-- `Hashed`, `RInv`, and every statement mentioning them.
import Mathlib.Tactic.Order

-- `isBound_cons` and `isBound_mono` take the section's `[LinearOrder K]` without using it
set_option linter.unusedSectionVars false

namespace Mst
variable {K : Type} [LinearOrder K]

def DR.mem (x : K) (r : DR K) : Prop := r.1 ≤ x ∧ x ≤ r.2

def Covered (x : K) (l : List (DR K)) : Prop := ∃ r ∈ l, DR.mem x r

/-- Strictly ascending, pairwise disjoint, not even sharing an end point. -/
def DRChain (l : List (DR K)) : Prop := l.Pairwise (fun a b => a.2 < b.1)

/-- `DRChain` with `≤`: what hole punching leaves before the second merge. -/
def WChain (l : List (DR K)) : Prop := l.Pairwise (fun a b => a.2 ≤ b.1)

def DRValid (l : List (DR K)) : Prop := ∀ r ∈ l, r.1 ≤ r.2

def IsBound (x : K) (l : List (DR K)) : Prop := ∃ r ∈ l, x = r.1 ∨ x = r.2

/-- The caller of a spec lemma picks `S`, `E` to learn where the output's bounds come from: what the
input lists satisfy, the output does. -/
def SE (S E : K → Prop) (l : List (DR K)) : Prop := ∀ r ∈ l, S r.1 ∧ E r.2

theorem covered_cons (x : K) (a : DR K) (l : List (DR K)) :
    Covered x (a :: l) ↔ DR.mem x a ∨ Covered x l := by
  simp [Covered]

theorem covered_nil (x : K) : ¬ Covered x ([] : List (DR K)) := by
  simp [Covered]

theorem isBound_cons (x : K) (a : DR K) (l : List (DR K)) :
    IsBound x (a :: l) ↔ (x = a.1 ∨ x = a.2) ∨ IsBound x l := by
  simp [IsBound]

theorem isBound_mono {x : K} {l l' : List (DR K)} (h : ∀ r ∈ l, r ∈ l') (hx : IsBound x l) :
    IsBound x l' := by
  obtain ⟨r, hr, hx⟩ := hx
  exact ⟨r, h r hr, hx⟩

theorem DR.mem_of_inside {a r : DR K} {x : K} (h1 : a.1 ≤ r.1) (h2 : r.2 ≤ a.2) (h : DR.mem x r) :
    DR.mem x a :=
  ⟨le_trans h1 h.1, le_trans h.2 h2⟩

theorem DR.mem_hull {a r : DR K} {x : K} (h1 : a.1 ≤ r.1) (h2 : r.1 ≤ a.2) (h3 : a.2 ≤ r.2) :
    DR.mem x (a.1, r.2) ↔ DR.mem x a ∨ DR.mem x r := by
  constructor
  · intro h
    by_cases hx : x ≤ a.2
    · exact Or.inl ⟨h.1, hx⟩
    · exact Or.inr ⟨le_trans h2 (le_of_lt (lt_of_not_ge hx)), h.2⟩
  · rintro (h | h)
    · exact ⟨h.1, le_trans h.2 h3⟩
    · exact ⟨le_trans h1 h.1, h.2⟩

/-- The clause `∀ r ∈ out, last.1 ≤ r.1` serves the induction only: it makes the result a chain when
`last` is emitted in front of the merged rest. -/
theorem mergeGo_spec (S E : K → Prop) (rs : List (DR K)) : ∀ (last : DR K), last.1 ≤ last.2 →
    DRValid rs → (∀ r ∈ rs, last.1 ≤ r.1) → rs.Pairwise (fun a b => a.1 ≤ b.1) →
    SE S E (last :: rs) →
    ∃ out, mergeGo last rs = .ok out ∧ DRChain out ∧ DRValid out ∧ (∀ r ∈ out, last.1 ≤ r.1) ∧
      (∀ x, Covered x out ↔ Covered x (last :: rs)) ∧ SE S E out := by
  induction rs with
  | nil =>
    intro last hl _ _ _ hse
    exact ⟨[last], rfl, List.pairwise_singleton _ _, List.forall_mem_singleton.2 hl,
      List.forall_mem_singleton.2 (le_refl _), fun x => Iff.rfl, hse⟩
  | cons r rs ih =>
    intro last hl hv hle hs hse
    obtain ⟨hrv, hv'⟩ := List.forall_mem_cons.1 hv
    obtain ⟨hr1, hle'⟩ := List.forall_mem_cons.1 hle
    obtain ⟨hsl, hse'⟩ := List.forall_mem_cons.1 hse
    obtain ⟨hsr, hse''⟩ := List.forall_mem_cons.1 hse'
    rw [List.pairwise_cons] at hs
    unfold mergeGo
    simp only [hr1, decide_true, Bool.not_true, Bool.false_eq_true, if_false]
    by_cases h1 : r.2 ≤ last.2
    · -- `r` inside `last`: dropped, the cover loses nothing
      rw [if_pos h1]
      obtain ⟨out, he, hc, hov, hos, hcov, hb⟩ :=
        ih last hl hv' hle' hs.2 (List.forall_mem_cons.2 ⟨hsl, hse''⟩)
      refine ⟨out, he, hc, hov, hos, fun x => ?_, hb⟩
      rw [hcov, covered_cons, covered_cons, covered_cons, ← or_assoc,
        or_iff_left_of_imp (DR.mem_of_inside hr1 h1)]
    · rw [if_neg h1]
      by_cases h2 : r.1 ≤ last.2
      · -- `r` overlaps `last` and reaches further: their hull `(last.1, r.2)`
        rw [if_pos h2]
        obtain ⟨out, he, hc, hov, hos, hcov, hb⟩ :=
          ih (last.1, r.2) (le_trans hr1 hrv) hv' hle' hs.2
            (List.forall_mem_cons.2 ⟨⟨hsl.1, hsr.2⟩, hse''⟩)
        refine ⟨out, he, hc, hov, hos, fun x => ?_, hb⟩
        rw [hcov, covered_cons, covered_cons, covered_cons, ← or_assoc,
          DR.mem_hull hr1 h2 (le_of_lt (lt_of_not_ge h1))]
      · -- `r` starts behind `last`: `last` is emitted, `r` the new `last`
        rw [if_neg h2]
        obtain ⟨out, he, hc, hov, hos, hcov, hb⟩ := ih r hrv hv' hs.1 hs.2 hse'
        have h2' : last.2 < r.1 := lt_of_not_ge h2
        rw [he]
        refine ⟨last :: out, rfl,
          List.pairwise_cons.2 ⟨fun a ha => lt_of_lt_of_le h2' (hos a ha), hc⟩,
          List.forall_mem_cons.2 ⟨hl, hov⟩,
          List.forall_mem_cons.2 ⟨le_refl _, fun a ha => le_trans hr1 (hos a ha)⟩,
          fun x => ?_, List.forall_mem_cons.2 ⟨hsl, hb⟩⟩
        rw [covered_cons, hcov, covered_cons (a := last)]

theorem overlaps_iff (a b : DR K) : DR.overlaps a b = true ↔ a.1 ≤ b.2 ∧ b.1 ≤ a.2 := by
  simp [DR.overlaps]

theorem overlaps_false_of_lt {a b : DR K} (h : a.2 < b.1) : DR.overlaps a b = false :=
  Bool.eq_false_iff.2 fun ho => not_le_of_gt h ((overlaps_iff a b).1 ho).2

theorem checkWindows_ok (m : List (DR K)) (hc : DRChain m) (hv : DRValid m) :
    checkWindowsIntoVec m = .ok () ∧ checkWindowsReduce m = .ok () := by
  induction m with
  | nil => exact ⟨rfl, rfl⟩
  | cons a m ih =>
    cases m with
    | nil => exact ⟨rfl, rfl⟩
    | cons b rest =>
      obtain ⟨hab, hc'⟩ := List.pairwise_cons.1 hc
      obtain ⟨ha, hv'⟩ := List.forall_mem_cons.1 hv
      have hb : b.1 ≤ b.2 := hv' b List.mem_cons_self
      unfold checkWindowsIntoVec checkWindowsReduce
      simp only [overlaps_false_of_lt (hab b List.mem_cons_self), ha, hb, decide_true,
        Bool.not_true, Bool.false_eq_true, if_false]
      exact ih hc' hv'

theorem mergeOverlapping_spec (S E : K → Prop) (l : List (DR K)) (hv : DRValid l)
    (hs : l.Pairwise (fun a b => a.1 ≤ b.1)) (hse : SE S E l) :
    ∃ out, mergeOverlapping l = .ok out ∧ DRChain out ∧ DRValid out ∧
      (∀ x, Covered x out ↔ Covered x l) ∧ SE S E out := by
  cases l with
  | nil => exact ⟨[], rfl, List.Pairwise.nil, List.forall_mem_nil _, fun x => Iff.rfl, hse⟩
  | cons a rs =>
    rw [List.pairwise_cons] at hs
    obtain ⟨ha, hv'⟩ := List.forall_mem_cons.1 hv
    obtain ⟨out, he, hc, hov, -, hcov, hb⟩ := mergeGo_spec S E rs a ha hv' hs.1 hs.2 hse
    exact ⟨out, he, hc, hov, hcov, hb⟩

theorem intoVec_spec (S E : K → Prop) (l : List (DR K)) (hv : DRValid l) (hse : SE S E l) :
    ∃ m, intoVec l = .ok m ∧ DRChain m ∧ DRValid m ∧
      (∀ x, Covered x m ↔ Covered x l) ∧ SE S E m := by
  have hperm := List.mergeSort_perm l (fun a b => decide (a.1 ≤ b.1))
  have hsorted : (l.mergeSort (fun a b => decide (a.1 ≤ b.1))).Pairwise (fun a b => a.1 ≤ b.1) := by
    have := List.pairwise_mergeSort (le := fun (a b : DR K) => decide (a.1 ≤ b.1))
      (fun a b c hab hbc => by
        simp only [decide_eq_true_eq] at hab hbc ⊢
        exact le_trans hab hbc)
      (fun a b => by
        simp only [Bool.or_eq_true, decide_eq_true_eq]
        exact le_total _ _) l
    exact this.imp (fun h => by simpa using h)
  have hmem : ∀ r, r ∈ l.mergeSort (fun a b => decide (a.1 ≤ b.1)) ↔ r ∈ l := fun r => hperm.mem_iff
  obtain ⟨m, he, hc, hmv, hcov, hb⟩ := mergeOverlapping_spec S E _
    (fun r hr => hv r ((hmem r).1 hr)) hsorted (fun r hr => hse r ((hmem r).1 hr))
  refine ⟨m, ?_, hc, hmv, ?_, hb⟩
  · unfold intoVec
    rw [he]
    simp only [(checkWindows_ok m hc hmv).1]
  · intro x
    rw [hcov]
    simp only [Covered, hmem]

theorem pairwise_ite_singleton {α : Type} {c : Prop} [Decidable c] {x : α} {R : α → α → Prop} :
    (if c then [x] else []).Pairwise R := by
  split_ifs
  · exact List.pairwise_singleton _ _
  · exact List.Pairwise.nil

theorem mem_punch (g b p : DR K) : p ∈ punch g b ↔
    (¬ (g.1 ≤ b.2 ∧ b.1 ≤ g.2) ∧ p = b) ∨
    ((g.1 ≤ b.2 ∧ b.1 ≤ g.2) ∧ ((b.1 < g.1 ∧ p = (b.1, g.1)) ∨ (g.2 < b.2 ∧ p = (g.2, b.2)))) := by
  -- along `punch`: `b` clear of `g`, kept whole; else the piece before `g` and the piece after
  fun_cases punch g b with
  | case1 ho =>
    have ho : ¬ (g.1 ≤ b.2 ∧ b.1 ≤ g.2) := fun h => by rw [(overlaps_iff g b).2 h] at ho; cases ho
    simp only [List.mem_singleton, ho, not_false_eq_true, true_and, false_and, or_false]
  | case2 ho =>
    have ho : g.1 ≤ b.2 ∧ b.1 ≤ g.2 := (overlaps_iff g b).1 (by simpa using ho)
    simp only [List.mem_append, List.mem_ite_nil_right, List.mem_singleton, ho, not_true_eq_false,
      false_and, false_or, true_and]

theorem punch_inside (g b : DR K) (hb : b.1 ≤ b.2) :
    ∀ p ∈ punch g b, p.1 ≤ p.2 ∧ b.1 ≤ p.1 ∧ p.2 ≤ b.2 := by
  intro p hp
  rw [mem_punch] at hp
  rcases hp with ⟨_, rfl⟩ | ⟨ho, ⟨h, rfl⟩ | ⟨h, rfl⟩⟩
  · exact ⟨hb, le_refl _, le_refl _⟩
  · exact ⟨le_of_lt h, le_refl _, ho.1⟩
  · exact ⟨le_of_lt h, ho.2, le_refl _⟩

/-- The only output of two pieces is `[(b.1, g.1), (g.2, b.2)]`, a chain because of `hg`. -/
theorem punch_wchain (g b : DR K) (hg : g.1 ≤ g.2) : WChain (punch g b) := by
  unfold WChain
  fun_cases punch g b with
  | case1 ho => exact List.pairwise_singleton _ _
  | case2 ho =>
    refine List.pairwise_append.2
      ⟨pairwise_ite_singleton, pairwise_ite_singleton, fun p hp q hq => ?_⟩
    obtain rfl := List.mem_singleton.1 (List.mem_ite_nil_right.1 hp).2
    obtain rfl := List.mem_singleton.1 (List.mem_ite_nil_right.1 hq).2
    exact hg

theorem punch_keeps (g b : DR K) (x : K) (hx : DR.mem x b) (hng : ¬ DR.mem x g) :
    ∃ p ∈ punch g b, DR.mem x p := by
  by_cases ho : g.1 ≤ b.2 ∧ b.1 ≤ g.2
  · by_cases h1 : g.1 ≤ x
    · have h2 : g.2 < x := lt_of_not_ge (fun h => hng ⟨h1, h⟩)
      exact ⟨(g.2, b.2), (mem_punch g b _).2 (Or.inr ⟨ho, Or.inr ⟨lt_of_lt_of_le h2 hx.2, rfl⟩⟩),
        le_of_lt h2, hx.2⟩
    · have h1' : x < g.1 := lt_of_not_ge h1
      exact ⟨(b.1, g.1), (mem_punch g b _).2 (Or.inr ⟨ho, Or.inl ⟨lt_of_le_of_lt hx.1 h1', rfl⟩⟩),
        hx.1, le_of_lt h1'⟩
  · exact ⟨b, (mem_punch g b _).2 (Or.inl ⟨ho, rfl⟩), hx⟩

/-- A piece left by `g` ends where `g` starts and starts where `g` ends: `S`, `E` swap for `g`. -/
theorem punch_SE (S E : K → Prop) (g b : DR K) (hb : S b.1 ∧ E b.2) (hg : E g.1 ∧ S g.2) :
    SE S E (punch g b) := by
  intro p hp
  rw [mem_punch] at hp
  rcases hp with ⟨_, rfl⟩ | ⟨_, ⟨_, rfl⟩ | ⟨_, rfl⟩⟩
  · exact hb
  · exact ⟨hb.1, hg.1⟩
  · exact ⟨hg.2, hb.2⟩

/-- `out` is `acc.flatMap (punch g)`, a variable so that the five clauses do not each carry the
term; likewise in `foldl_punch_spec`. -/
theorem flatMap_punch_spec (S E : K → Prop) (g : DR K) (hg : g.1 ≤ g.2) (hgs : E g.1 ∧ S g.2)
    (acc : List (DR K)) (hw : WChain acc) (hv : DRValid acc) (hse : SE S E acc)
    {out : List (DR K)} (ho : acc.flatMap (punch g) = out) :
    WChain out ∧ DRValid out ∧ (∀ x, Covered x out → Covered x acc) ∧
    (∀ x, Covered x acc → ¬ DR.mem x g → Covered x out) ∧ SE S E out := by
  subst ho
  refine ⟨?_, ?_, ?_, ?_, ?_⟩
  · unfold WChain
    rw [List.pairwise_flatMap]
    refine ⟨fun a _ => punch_wchain g a hg, hw.imp_of_mem ?_⟩
    intro a b ha hb hab p hp q hq
    exact le_trans (punch_inside g a (hv a ha) p hp).2.2
      (le_trans hab (punch_inside g b (hv b hb) q hq).2.1)
  · intro p hp
    obtain ⟨a, ha, hpa⟩ := List.mem_flatMap.1 hp
    exact (punch_inside g a (hv a ha) p hpa).1
  · rintro x ⟨p, hp, hx⟩
    obtain ⟨a, ha, hpa⟩ := List.mem_flatMap.1 hp
    have := punch_inside g a (hv a ha) p hpa
    exact ⟨a, ha, le_trans this.2.1 hx.1, le_trans hx.2 this.2.2⟩
  · rintro x ⟨a, ha, hx⟩ hng
    obtain ⟨p, hp, hxp⟩ := punch_keeps g a x hx hng
    exact ⟨p, List.mem_flatMap.2 ⟨a, ha, hp⟩, hxp⟩
  · intro p hp
    obtain ⟨a, ha, hpa⟩ := List.mem_flatMap.1 hp
    exact punch_SE S E g a (hse a ha) hgs p hpa

theorem foldl_punch_spec (S E : K → Prop) (good : List (DR K)) : ∀ (acc : List (DR K)),
    DRValid good → SE E S good → WChain acc → DRValid acc → SE S E acc →
    ∀ {out : List (DR K)}, good.foldl (fun acc g => acc.flatMap (punch g)) acc = out →
    WChain out ∧ DRValid out ∧ (∀ x, Covered x out → Covered x acc) ∧
    (∀ x, Covered x acc → ¬ Covered x good → Covered x out) ∧ SE S E out := by
  induction good with
  | nil =>
    intro acc _ _ hw hv hse out ho
    subst ho
    exact ⟨hw, hv, fun _ h => h, fun _ h _ => h, hse⟩
  | cons g good ih =>
    intro acc hgv hgs hw hv hse out ho
    obtain ⟨hg, hgv'⟩ := List.forall_mem_cons.1 hgv
    obtain ⟨hgs1, hgs'⟩ := List.forall_mem_cons.1 hgs
    obtain ⟨sw, sv, sc1, sc2, sb⟩ := flatMap_punch_spec S E g hg hgs1 acc hw hv hse rfl
    obtain ⟨iw, iv, ic1, ic2, ib⟩ := ih (acc.flatMap (punch g)) hgv' hgs' sw sv sb ho
    refine ⟨iw, iv, fun x h => sc1 x (ic1 x h), ?_, ib⟩
    intro x hx hng
    rw [covered_cons] at hng
    exact ic2 x (sc2 x hx (fun h => hng (Or.inl h))) (fun h => hng (Or.inr h))

/-- Two inclusions, not `out = bad ∖ good`: the pieces `punch` leaves are closed and keep `g.start`,
`g.end` (diff_builder.rs:77-90). -/
theorem reduceSyncRange_spec (S E : K → Prop) (bad good : List (DR K))
    (hb : DRChain bad) (hbv : DRValid bad) (hgv : DRValid good)
    (hbs : SE S E bad) (hgs : SE E S good) :
    ∃ out, reduceSyncRange bad good = .ok out ∧ DRChain out ∧ DRValid out ∧
      (∀ x, Covered x out → Covered x bad) ∧
      (∀ x, Covered x bad → ¬ Covered x good → Covered x out) ∧ SE S E out := by
  have hw : WChain bad := hb.imp (fun h => le_of_lt h)
  obtain ⟨fw, fv, fc1, fc2, fb⟩ := foldl_punch_spec S E good bad hgv hgs hw hbv hbs rfl
  -- the punched list is sorted by start: `a.1 ≤ a.2 ≤ b.1`
  have hs : List.Pairwise (fun a b : DR K => a.1 ≤ b.1) _ :=
    fw.imp_of_mem (fun {a b} ha _ hab => le_trans (fv a ha) hab)
  obtain ⟨m, he, hc, hmv, hcov, hmb⟩ := mergeOverlapping_spec S E _ fv hs fb
  refine ⟨m, ?_, hc, hmv, ?_, ?_, hmb⟩
  · unfold reduceSyncRange
    simp only [he, (checkWindows_ok m hc hmv).2]
  · intro x hx
    exact fc1 x ((hcov x).1 hx)
  · intro x hx hng
    exact (hcov x).2 (fc2 x hx hng)

theorem intoDiffVec_spec_SE (S E : K → Prop) (b : Builder K) (hb : DRValid b.bad)
    (hg : DRValid b.good) (hbs : SE S E b.bad) (hgs : SE E S b.good) :
    ∃ out, b.intoDiffVec = .ok out ∧ DRChain out ∧ DRValid out ∧
      (∀ x, Covered x out → Covered x b.bad) ∧
      (∀ x, Covered x b.bad → ¬ Covered x b.good → Covered x out) ∧ SE S E out := by
  obtain ⟨bad, hbad, hbc, hbv, hbcov, hbse⟩ := intoVec_spec S E b.bad hb hbs
  obtain ⟨good, hgood, -, hgv, hgcov, hgse⟩ := intoVec_spec E S b.good hg hgs
  obtain ⟨out, hout, hoc, hov, hc1, hc2, hse⟩ :=
    reduceSyncRange_spec S E bad good hbc hbv hgv hbse hgse
  refine ⟨out, ?_, hoc, hov, ?_, ?_, hse⟩
  · simp only [Builder.intoDiffVec, hbad, hgood, hout]
  · intro x hx
    exact (hbcov x).1 (hc1 x hx)
  · intro x hx hng
    exact hc2 x ((hbcov x).2 hx) (fun h => hng ((hgcov x).1 h))

/-- `intoDiffVec_spec_SE` at `S :=` "an inconsistent start or a consistent end", `E :=` "an
inconsistent end or a consistent start": the returned ranges are made of bounds of the marks. -/
theorem intoDiffVec_spec (b : Builder K) (hb : DRValid b.bad) (hg : DRValid b.good) :
    ∃ out, b.intoDiffVec = .ok out ∧ DRChain out ∧ DRValid out ∧
      (∀ x, Covered x out → Covered x b.bad) ∧
      (∀ x, Covered x b.bad → ¬ Covered x b.good → Covered x out) ∧
      (∀ r ∈ out, ((∃ s ∈ b.bad, r.1 = s.1) ∨ (∃ g ∈ b.good, r.1 = g.2)) ∧
                  ((∃ s ∈ b.bad, r.2 = s.2) ∨ (∃ g ∈ b.good, r.2 = g.1))) :=
  intoDiffVec_spec_SE (fun x => (∃ s ∈ b.bad, x = s.1) ∨ (∃ g ∈ b.good, x = g.2))
    (fun x => (∃ s ∈ b.bad, x = s.2) ∨ (∃ g ∈ b.good, x = g.1)) b hb hg
    (fun r hr => ⟨Or.inl ⟨r, hr, rfl⟩, Or.inl ⟨r, hr, rfl⟩⟩)
    (fun r hr => ⟨Or.inr ⟨r, hr, rfl⟩, Or.inr ⟨r, hr, rfl⟩⟩)

/-- What is returned is covered by an inconsistent mark, and there is none. -/
theorem intoDiffVec_bad_nil (b : Builder K) (hb : b.bad = []) (hg : DRValid b.good) :
    b.intoDiffVec = .ok [] := by
  obtain ⟨out, hout, -, hv, hsub, -⟩ := intoDiffVec_spec b (hb ▸ List.forall_mem_nil _) hg
  cases out with
  | nil => exact hout
  | cons r _ =>
    have hcov := hsub r.1 ⟨r, List.mem_cons_self, le_refl _, hv r List.mem_cons_self⟩
    rw [hb] at hcov
    exact absurd hcov (covered_nil _)

/-- Sorting, merging and both window checks return a single interval as it is; nothing to punch. -/
theorem intoDiffVec_single (s e : K) :
    Builder.intoDiffVec ({ bad := [(s, e)], good := [] } : Builder K) = .ok [(s, e)] := by
  simp only [Builder.intoDiffVec, intoVec, List.mergeSort_singleton, List.mergeSort_nil]
  rfl

end Mst

#print axioms Mst.intoVec_spec
#print axioms Mst.reduceSyncRange_spec
#print axioms Mst.intoDiffVec_spec
