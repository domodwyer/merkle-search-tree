/-
L1b: `Tree.upsert` preserves the tree invariant, never panics, and has map semantics. Order is not
carried through the descent: every step returns `content' = insertKV key val content` next to
levels and caches, and `insertKV` keeps sorted lists sorted (`Inv.of_insertKV`).
-/
import MstVerif.Proofs.Split
import MstVerif.Proofs.Assoc

namespace Mst
variable {K V D : Type} [LinearOrder K]

/-- The Rust splits the high page of the page just split off once more (page.rs:329–335, 589–601),
and the model keeps the step. On what the first split returns — stratified, all keys below `key` —
it does nothing. -/
theorem secondSplit_noop (lvl : K → Nat) (s1 s2 s3 : String) (L : Nat) (key : K) (x : Pg K V D)
    (hlv : LvPg lvl L x) (hlt : ∀ k ∈ x.keys, k < key) :
    secondSplit s1 s2 s3 L key x = .ok (x, .none) := by
  cases x with
  | none => rfl
  | some Lx cx nx hx =>
    obtain ⟨hn, hh⟩ := Pg.forall_keys_some.1 hlt
    simp only [secondSplit, assertT_ok (decide_eq_true hlv.lt_bound),
      assertT_ok (Nd.not_isNil hlv.ne_nil), assertKeyLt_last s3 hlv.ne_nil hn,
      splitPg_all_lt lvl key Lx hx hlv.high hh]

theorem splitForInsert_spec {lvl : K → Nat} {hc : HashCfg K V D} {key : K} {L : Nat}
    {slot : Pg K V D} (high : Pg K V D) (b : Bool)
    (hlv : LvPg lvl L slot) (hs : slot.Sorted) (hne : key ∉ slot.keys) (hco : CacheOKPg hc slot) :
    ∃ x slot', splitForInsert L key slot high b = .ok (x, slot', if b then slot' else high) ∧
      SplitPgSpec lvl hc key L slot x slot' := by
  obtain ⟨x, slot', hsplit, S⟩ := splitPg_spec' lvl hc key slot L hlv hs hne hco
  refine ⟨x, slot', ?_, S⟩
  -- the second split returns nothing, so `attachHigh` hands back `high`
  simp only [splitForInsert, hsplit, secondSplit_noop lvl _ _ _ L key x S.lvA S.lt, attachHigh]

/-- The six parts after the run equation come in the order of `UpOK`, so `upsertPg_spec` hands
them on as one tail. -/
theorem upsertNd_spec (lvl : K → Nat) (hc : HashCfg K V D) (key : K) (val : V) (L : Nat)
    (hL : lvl key = L) : ∀ (n : Nd K V D) (high : Pg K V D),
    LvNd lvl L n → LvPg lvl L high → (n.keys ++ high.keys).Pairwise (· < ·) →
    CacheOKNd hc n → CacheOKPg hc high →
    ∃ n' high', upsertNd L key val n high = .ok (n', high') ∧ n' ≠ .nil ∧
      LvNd lvl L n' ∧ LvPg lvl L high' ∧
      n'.content ++ high'.content = insertKV key val (n.content ++ high.content) ∧
      CacheOKNd hc n' ∧ CacheOKPg hc high' := by
  intro n
  induction n using Nd.induction_tail with
  | nil =>
    intro high _ hlvh hs _ hcoh
    -- `hs` is `high.Sorted`: `Nd.nil.keys ++ high.keys` unfolds to `high.keys`
    obtain ⟨x, high', hsplit, S⟩ := splitForInsert_spec high true hlvh hs
      (LvPg_not_mem hlvh (Nat.le_of_eq hL.symm)) hcoh
    exact ⟨.cons x key val .nil, high', by simp [upsertNd, hsplit],
      nofun,
      ⟨S.lvA, hL, trivial⟩,
      S.lvB,
      by simpa [Nd.content, S.content] using (insertKV_mid key val _ _ S.lt S.gt).symm,
      ⟨S.coA, trivial⟩,
      S.coB⟩
  | cons lt k v tl ih =>
    intro high ⟨hlvlt, hlvk, hlvtl⟩ hlvh hs ⟨hcolt, hcotl⟩ hcoh
    obtain ⟨hsn, hsh, hnh⟩ := List.pairwise_append.1 hs
    obtain ⟨hslt, hstl, hltk, hktl⟩ := Nd.sorted_cons.1 hsn
    obtain ⟨-, hkh, htlh⟩ := Nd.forall_keys_cons.1 hnh
    by_cases hle : key ≤ k
    · by_cases heq : k = key
      · subst heq
        refine ⟨.cons lt k val tl, high, by simp [upsertNd],
          nofun,
          ⟨hlvlt, hlvk, hlvtl⟩,
          hlvh,
          ?_,
          ⟨hcolt, hcotl⟩,
          hcoh⟩
        simp only [Nd.content, List.append_assoc, List.cons_append]
        rw [insertKV_append_of_lt k val _ _ hltk, insertKV_cons_self]
      · have hkey : key < k := lt_of_le_of_ne hle (Ne.symm heq)
        obtain ⟨x, lt', hsplit, S⟩ := splitForInsert_spec high false hlvlt hslt
          (LvPg_not_mem hlvlt (Nat.le_of_eq hL.symm)) hcolt
        refine ⟨.cons x key val (.cons lt' k v tl), high, by simp [upsertNd, hle, heq, hsplit],
          nofun,
          ⟨S.lvA, hL, S.lvB, hlvk, hlvtl⟩,
          hlvh,
          ?_,
          ⟨S.coA, S.coB, hcotl⟩,
          hcoh⟩
        simp only [Nd.content, List.append_assoc, List.cons_append, S.content]
        refine (insertKV_mid key val _ _ S.lt ?_).symm
        simp only [List.map_append, List.map_cons, List.forall_mem_append, List.forall_mem_cons]
        exact ⟨S.gt, hkey, fun a ha => lt_trans hkey (hktl a ha),
          fun a ha => lt_trans hkey (hkh a ha)⟩
    · have hkey : k < key := not_le.mp hle
      obtain ⟨tl', high', he, -, hlvtl', hlvh', hcont, hcotl', hcoh'⟩ :=
        ih high hlvtl hlvh
          (List.pairwise_append.2 ⟨hstl, hsh, htlh⟩) hcotl hcoh
      refine ⟨.cons lt k v tl', high', by simp [upsertNd, hle, he],
        nofun,
        ⟨hlvlt, hlvk, hlvtl'⟩,
        hlvh',
        ?_,
        ⟨hcolt, hcotl'⟩,
        hcoh'⟩
      -- here and in `upsertDescNd_spec` the one-node list is the content before the tail,
      -- `lt.content ++ [(k, v)]`, in the form whose key bound `Nd.forall_keys_cons` states
      have := insertKV_append_of_lt key val (Nd.cons lt k v .nil).content
        (tl.content ++ high.content)
        (Nd.forall_keys_cons.2 ⟨fun a ha => lt_trans (hltk a ha) hkey, hkey, nofun⟩)
      simpa [Nd.content, hcont] using this.symm

theorem insertIntermediate_spec (lvl : K → Nat) (hc : HashCfg K V D) (key : K) (val : V)
    (child : Pg K V D) (hsome : child ≠ .none)
    (hlv : LvPg lvl (lvl key) child) (hs : child.Sorted) (hco : CacheOKPg hc child) :
    ∃ x rest, insertIntermediate child key (lvl key) val =
        .ok (.some (lvl key) Option.none (.cons x key val .nil) rest) ∧
      LvPg lvl (lvl key) x ∧ LvPg lvl (lvl key) rest ∧
      x.content ++ (key, val) :: rest.content = insertKV key val child.content ∧
      CacheOKPg hc x ∧ CacheOKPg hc rest := by
  obtain ⟨x, rest, hsplit, S⟩ := splitPg_spec' lvl hc key child (lvl key) hlv hs
    (LvPg_not_mem hlv (Nat.le_refl _)) hco
  refine ⟨x, rest, ?_,
    S.lvA,
    S.lvB,
    S.content ▸ (insertKV_mid key val _ _ S.lt S.gt).symm,
    S.coA,
    S.coB⟩
  cases child with
  | none => exact absurd rfl hsome
  | some Lc cc nc hh =>
    simp only [insertIntermediate, assertT_ok (decide_eq_true hlv.lt_bound),
      assertT_ok (Nd.not_isNil hlv.ne_nil), hsplit,
      secondSplit_noop lvl _ _ _ (lvl key) key x S.lvA S.lt, assertGte]
    cases rest with
    | none => rfl
    | some Lr cr nr hr =>
      have hlvr := S.lvB
      simp only [Nd.isNil_eq_false hlvr.ne_nil, Bool.false_eq_true, if_false,
        assertKeyGt_last _ hlvr.ne_nil (Pg.forall_keys_some.1 S.gt).1,
        assertT_ok (decide_eq_true hlvr.lt_bound)]

/-- `0` for the absent page is never looked at. -/
def Pg.level : Pg K V D → Nat
  | .none => 0
  | .some L _ _ _ => L

/-- What `upsertPg` does on a page at or above the key's level; a predicate of the page, so that
`childFinish_spec` can take it as induction hypothesis for the slot. `upsertPg_spec` proves it under
`LvRoot` also for inner pages: the weakest shape hypothesis covering the possibly empty root and an
inner page (`LvRoot_of_LvPg`). -/
def UpOK (lvl : K → Nat) (hc : HashCfg K V D) (key : K) (val : V) (p : Pg K V D) : Prop :=
  lvl key ≤ p.level →
    ∃ n' h', upsertPg key (lvl key) val p = .ok (.some p.level Option.none n' h', .complete) ∧
      n' ≠ .nil ∧ LvNd lvl p.level n' ∧ LvPg lvl p.level h' ∧
      n'.content ++ h'.content = insertKV key val p.content ∧
      CacheOKNd hc n' ∧ CacheOKPg hc h'

/-- A page below the key's level hands `upsert` back to its parent, which inserts an intermediate
page. -/
theorem upsertPg_of_level_lt (key : K) (level : Nat) (val : V) (L : Nat) (c : Option D)
    (n : Nd K V D) (h : Pg K V D) (hgt : L < level) :
    upsertPg key level val (.some L c n h) = .ok (.some L c n h, .insertIntermediate) := by
  rw [upsertPg.eq_2, if_neg (Nat.lt_asymm hgt), if_neg (Nat.ne_of_gt hgt)]

/-- `ih` is a hypothesis because this lemma stands outside the mutual induction: its two callers
make the recursive call, on a structurally smaller page. Its premise `LvRoot lvl slot` (see `UpOK`)
fails for an absent slot, whose case does not use `ih`, and follows from `hlv` for a present one. -/
theorem childFinish_spec {lvl : K → Nat} {hc : HashCfg K V D} {key : K} {val : V} {L : Nat}
    (hlt : lvl key < L) {slot : Pg K V D} (hlv : LvPg lvl L slot) (hs : slot.Sorted)
    (hco : CacheOKPg hc slot) (ih : LvRoot lvl slot → UpOK lvl hc key val slot) :
    ∃ p', childFinish key (lvl key) val slot (upsertPg key (lvl key) val slot) = .ok p' ∧
      LvPg lvl L p' ∧ p'.content = insertKV key val slot.content ∧ CacheOKPg hc p' := by
  cases slot with
  | none =>
    obtain ⟨n', h', he, hne, hlvn', hlvh', hcont, hcon', hcoh'⟩ :=
      upsertNd_spec lvl hc key val (lvl key) rfl (.nil : Nd K V D) .none
        trivial trivial .nil trivial trivial
    exact ⟨.some (lvl key) Option.none n' h', by simp only [childFinish, he],
      ⟨hlt, hne, hlvn', hlvh'⟩,
      hcont,
      ⟨nofun, hcon', hcoh'⟩⟩
  | some Ls cs ns sh =>
    by_cases hle : lvl key ≤ Ls
    · obtain ⟨n', h', he, hne, hlvn', hlvh', hcont, hcon', hcoh'⟩ :=
        ih (LvRoot_of_LvPg nofun hlv) hle
      exact ⟨.some Ls Option.none n' h', by simp only [childFinish, he, Pg.level],
        ⟨hlv.lt_bound, hne, hlvn', hlvh'⟩,
        hcont,
        ⟨nofun, hcon', hcoh'⟩⟩
    · have hgt : Ls < lvl key := Nat.lt_of_not_le hle
      obtain ⟨x, rest, he, hlvx, hlvrest, hcont, hcox, hcorest⟩ :=
        insertIntermediate_spec lvl hc key val (.some Ls cs ns sh) nofun
          ⟨hgt, hlv.ne_nil, hlv.nodes, hlv.high⟩ hs hco
      exact ⟨.some (lvl key) Option.none (.cons x key val .nil) rest,
        by simp only [childFinish, upsertPg_of_level_lt key _ val Ls cs ns sh hgt, he],
        ⟨hlt, nofun, ⟨hlvx, rfl, trivial⟩, hlvrest⟩,
        by simpa [Pg.content, Nd.content] using hcont,
        ⟨nofun, ⟨hcox, trivial⟩, hcorest⟩⟩

/-- The witness `∃ k ∈ n.keys, key < k` only puts the high page's keys above `key`. -/
def DescSpec (lvl : K → Nat) (hc : HashCfg K V D) (key : K) (val : V) (L : Nat) (n : Nd K V D) :
    Option (Nd K V D) → Prop
  | .none => ∀ k ∈ n.keys, k < key
  | .some n' => n' ≠ .nil ∧ LvNd lvl L n' ∧ n'.content = insertKV key val n.content ∧
      CacheOKNd hc n' ∧ ∃ k ∈ n.keys, key < k

mutual
theorem upsertPg_spec (lvl : K → Nat) (hlvl : ∀ k, lvl k < 255) (hc : HashCfg K V D) (key : K)
    (val : V) : ∀ (p : Pg K V D), LvRoot lvl p → p.Sorted → CacheOKPg hc p → UpOK lvl hc key val p
  | .none, hroot, _, _ => False.elim hroot
  | .some L c n h, hroot, hs, hco => by
    intro (hle : lvl key ≤ L)
    obtain ⟨hsn, hsh, hnh⟩ := Pg.sorted_some.1 hs
    rw [upsertPg.eq_2]
    by_cases hlt : lvl key < L
    · have hnn : n ≠ .nil := fun e => Nat.not_lt_zero _ ((hroot.empty e).1 ▸ hlt)
      -- page.rs:233 is `debug_assert_ne!(!self.level, 0)`: the bitwise NOT of the `u8` level is
      -- zero exactly at 255, which no key's level reaches (`hlvl`)
      have hL : (L != 255) = true := by
        cases n with
        | nil => exact absurd rfl hnn
        | cons lt k0 v0 tl =>
          have hk0 : lvl k0 < 255 := hlvl k0
          rw [hroot.nodes.level_eq] at hk0
          simpa using Nat.ne_of_lt hk0
      obtain ⟨r, hr, hspec⟩ :=
        upsertDescNd_spec lvl hlvl hc key val n L hlt hroot.nodes hsn hco.nodes
      simp only [if_pos hlt, assertT_ok hL, assertT_ok (Nd.not_isNil hnn), hr]
      cases r with
      | none =>
        obtain ⟨h', he, hlvh', hcont, hcoh'⟩ :=
          childFinish_spec hlt hroot.high hsh hco.high
            (upsertPg_spec lvl hlvl hc key val h · hsh hco.high)
        exact ⟨n, h', by simp only [he, Pg.level],
          hnn,
          hroot.nodes,
          hlvh',
          hcont ▸ (insertKV_append_of_lt key val _ _ hspec).symm,
          hco.nodes,
          hcoh'⟩
      | some n' =>
        obtain ⟨hne, hlvn', hcont, hcon', k0, hk0, hk0gt⟩ := hspec
        exact ⟨n', h, rfl,
          hne,
          hlvn',
          hroot.high,
          hcont ▸ (insertKV_append_of_gt key val _ _ fun k hk =>
            lt_trans hk0gt (hnh k0 hk0 k hk)).symm,
          hcon',
          hco.high⟩
    · have heq : lvl key = L := Nat.le_antisymm hle (Nat.le_of_not_lt hlt)
      have hs' : (n.keys ++ h.keys).Pairwise (· < ·) := by
        rw [← Pg.keys_some L c n h]
        exact hs
      obtain ⟨n', h', he, hrest⟩ :=
        upsertNd_spec lvl hc key val L heq n h hroot.nodes hroot.high hs'
          hco.nodes hco.high
      exact ⟨n', h', by simp only [if_neg hlt, if_pos heq, he, Pg.level], hrest⟩
theorem upsertDescNd_spec (lvl : K → Nat) (hlvl : ∀ k, lvl k < 255) (hc : HashCfg K V D) (key : K)
    (val : V) : ∀ (n : Nd K V D) (L : Nat), lvl key < L → LvNd lvl L n → n.Sorted →
      CacheOKNd hc n →
      ∃ r, upsertDescNd key (lvl key) val n = .ok r ∧ DescSpec lvl hc key val L n r
  | .nil, L, _, _, _, _ => ⟨.none, rfl, nofun⟩
  | .cons lt k v tl, L, hlt, ⟨hlvlt, hlvk, hlvtl⟩, hs, ⟨hcolt, hcotl⟩ => by
    obtain ⟨hslt, hstl, hltk, hktl⟩ := Nd.sorted_cons.1 hs
    rw [upsertDescNd.eq_2]
    by_cases hle : key ≤ k
    · have hkey : key < k :=
        lt_of_le_of_ne hle fun e => absurd hlt (by rw [e, hlvk]; exact Nat.lt_irrefl L)
      obtain ⟨lt', he, hlvlt', hcont, hcolt'⟩ :=
        childFinish_spec hlt hlvlt hslt hcolt
          (upsertPg_spec lvl hlvl hc key val lt · hslt hcolt)
      refine ⟨.some (.cons lt' k v tl),
        by simp only [if_pos hle, assertT_ok (decide_eq_true hkey), he],
        nofun,
        ⟨hlvlt', hlvk, hlvtl⟩,
        ?_,
        ⟨hcolt', hcotl⟩,
        k, by simp, hkey⟩
      simp only [Nd.content, hcont]
      exact (insertKV_append_of_gt key val _ ((k, v) :: tl.content) (List.forall_mem_cons.2
        ⟨hkey, fun a ha => lt_trans hkey (hktl a ha)⟩)).symm
    · have hkey : k < key := not_le.mp hle
      have hltkey : ∀ a ∈ lt.keys, a < key := fun a ha => lt_trans (hltk a ha) hkey
      obtain ⟨r, hr, hspec⟩ := upsertDescNd_spec lvl hlvl hc key val tl L hlt hlvtl hstl hcotl
      simp only [if_neg hle, hr]
      cases r with
      | none =>
        exact ⟨.none, rfl, Nd.forall_keys_cons.2 ⟨hltkey, hkey, hspec⟩⟩
      | some tl' =>
        obtain ⟨-, hlvtl', hcont, hcotl', k0, hk0, hk0gt⟩ := hspec
        refine ⟨.some (.cons lt k v tl'), rfl,
          nofun,
          ⟨hlvlt, hlvk, hlvtl'⟩,
          ?_,
          ⟨hcolt, hcotl'⟩,
          k0, by simp [hk0], hk0gt⟩
        have := insertKV_append_of_lt key val (Nd.cons lt k v .nil).content tl.content
          (Nd.forall_keys_cons.2 ⟨hltkey, hkey, nofun⟩)
        simpa [Nd.content, hcont] using this.symm
end

/-- Sortedness comes from `insertKV_sorted`, not from the descent. -/
theorem Inv.of_insertKV {lvl : K → Nat} {hc : HashCfg K V D} {t : Tree K V D} (hinv : Inv lvl hc t)
    {r : Pg K V D} {k : K} {v : V} (hlv : LvRoot lvl r) (hco : CacheOKPg hc r)
    (hcont : r.content = insertKV k v t.root.content) : Inv lvl hc ⟨r, none⟩ where
  shape := hlv
  sorted := (Pg.sorted_iff_ksorted r).2 (hcont ▸ insertKV_sorted k v _ hinv.sorted)
  cacheOK := hco
  rootHash := nofun

theorem Tree.upsert_inv (lvl : K → Nat) (hlvl : ∀ k, lvl k < 255) (hc : HashCfg K V D)
    (t : Tree K V D) (hinv : Inv lvl hc t) (k : K) (v : V) :
    ∃ t', t.upsert k (lvl k) v = .ok t' ∧ Inv lvl hc t' ∧
      t'.root.content = insertKV k v t.root.content ∧ t'.rootHash = none := by
  obtain ⟨root, rh⟩ := t
  cases root with
  | none => exact False.elim hinv.shape
  | some L c n h =>
    by_cases hle : lvl k ≤ L
    · obtain ⟨n', h', he, hne, hlvn', hlvh', hcont, hcon', hcoh'⟩ :=
        upsertPg_spec lvl hlvl hc k v (.some L c n h) hinv.shape hinv.sorted hinv.cacheOK hle
      exact ⟨⟨.some L none n' h', none⟩, by simp only [Tree.upsert, he, Pg.level],
        hinv.of_insertKV (r := .some L none n' h')
          ⟨fun e => absurd e hne, hlvn', hlvh'⟩ ⟨nofun, hcon', hcoh'⟩ hcont,
        hcont,
        rfl⟩
    · -- the root is below the key's level and goes under a new root page with the one node `k`;
      -- the `LvRoot` and `CacheOKPg` tuples below are that page's
      have he := upsertPg_of_level_lt k (lvl k) v L c n h (Nat.lt_of_not_le hle)
      cases n with
      | nil =>
        obtain ⟨-, rfl⟩ := hinv.shape.empty rfl
        exact ⟨⟨.some (lvl k) none (.cons .none k v .nil) .none, none⟩,
          by simp only [Tree.upsert, he, Pg.nodesNil, Nd.isNil, if_true],
          hinv.of_insertKV (r := .some (lvl k) none (.cons .none k v .nil) .none)
            ⟨nofun, ⟨trivial, rfl, trivial⟩, trivial⟩ ⟨nofun, ⟨trivial, trivial⟩, trivial⟩ rfl,
          rfl,
          rfl⟩
      | cons lt k0 v0 tl =>
        obtain ⟨x, rest, he2, hlvx, hlvrest, hcont, hcox, hcorest⟩ :=
          insertIntermediate_spec lvl hc k v (.some L c (.cons lt k0 v0 tl) h) nofun
            ⟨Nat.lt_of_not_le hle, nofun, hinv.shape.nodes, hinv.shape.high⟩ hinv.sorted
            hinv.cacheOK
        have hcont' : (Pg.some (lvl k) none (.cons x k v .nil) rest).content =
            insertKV k v (Pg.some L c (.cons lt k0 v0 tl) h).content := by
          rw [← hcont]
          simp [Pg.content, Nd.content]
        exact ⟨⟨.some (lvl k) none (.cons x k v .nil) rest, none⟩,
          by simp only [Tree.upsert, he, Pg.nodesNil, Nd.isNil, Bool.false_eq_true, if_false, he2],
          hinv.of_insertKV (r := .some (lvl k) none (.cons x k v .nil) rest)
            ⟨nofun, ⟨hlvx, rfl, trivial⟩, hlvrest⟩ ⟨nofun, ⟨hcox, trivial⟩, hcorest⟩ hcont',
          hcont',
          rfl⟩

theorem Tree.empty_inv (lvl : K → Nat) (hc : HashCfg K V D) : Inv lvl hc (Tree.empty : Tree K V D) where
  shape := ⟨fun _ => ⟨rfl, rfl⟩, trivial, trivial⟩
  sorted := .nil
  cacheOK := ⟨nofun, trivial, trivial⟩
  rootHash := nofun

end Mst
