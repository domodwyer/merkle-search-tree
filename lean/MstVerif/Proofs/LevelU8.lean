/-
The `u8` arithmetic of `digest::level` agrees with the `Nat` model while the accumulator cannot
overflow (at most 127 bytes from zero), in both build profiles; and two facts about runs of zero
bytes, from which Props/C14 computes what happens at 128.
-/
import MstVerif.Model.LevelU8
import MstVerif.Proofs.Level

namespace Mst

theorem levelU8Loop_eq (checked : Bool) (base : Nat) (d : List UInt8) (out : UInt8)
    (h : out.toNat + 2 * d.length < 256) :
    levelU8Loop checked base d out = .ok (UInt8.ofNat (out.toNat + level d base)) := by
  induction d generalizing out with
  | nil => simp [levelU8Loop, level]
  | cons b rest ih =>
    simp only [List.length_cons] at h
    unfold levelU8Loop level
    rcases hb : baseCountZero b base with _ | _ | _ | n
    · -- 0: neither zero nor a multiple of the base; both sides stop with `out`
      simp
    · -- 1: a non-zero multiple of the base; both sides stop with one more
      have : ¬ (out.toNat + 1 ≥ 256) := by omega
      simp only [this, decide_false, Bool.and_false, Bool.false_eq_true, ↓reduceIte]
      -- `out + 1` and `UInt8.ofNat (out.toNat + 1)` are both `out.toNat + 1` modulo 256, by `rfl`
      congr 1
    · -- 2: a zero byte; both sides go on, and `out + 2` does not wrap
      have h2 : ¬ (out.toNat + 2 ≥ 256) := by omega
      simp only [h2, decide_false, Bool.and_false, Bool.false_eq_true, ↓reduceIte]
      have ho : (out + 2).toNat = out.toNat + 2 := by
        rw [UInt8.toNat_add]
        exact Nat.mod_eq_of_lt (Nat.lt_of_not_le h2)
      rw [ih (out + 2) (by rw [ho]; omega), ho]
      rw [Nat.add_assoc]
    · -- 3 and more are no values of `baseCountZero`
      simp

/-- On zero bytes the base is never looked at, so it can be the literal `1`: for concrete `checked`,
`n`, `out` the right-hand side is closed, and Props/C14 evaluates it by `decide +kernel`. -/
theorem levelU8Loop_zeros (checked : Bool) (base : Nat) (n : Nat) (out : UInt8) :
    levelU8Loop checked base (List.replicate n 0) out =
      levelU8Loop checked 1 (List.replicate n 0) out := by
  induction n generalizing out with
  | zero => rfl
  | succ n ih =>
    simp only [List.replicate_succ, levelU8Loop, baseCountZero, ↓reduceIte]
    split
    · rfl
    · exact ih _

theorem level_zeros (base : Nat) (n : Nat) : level (List.replicate n 0) base = 2 * n := by
  induction n with
  | zero => rfl
  | succ n ih => simp only [List.replicate_succ, level, baseCountZero, ↓reduceIte, ih]; omega

end Mst
