/-
`page_range_snapshot.rs` (Model/Snapshot.lean): owned ranges and snapshots convert back to what
they were built from, and a served snapshot outlives later upserts (C16).
-/
import MstVerif.Model.Snapshot
import MstVerif.Proofs.DiffTree

namespace Mst
variable {K V D : Type} [LinearOrder K]

theorem OwnedPR.new_ok_iff (s e : K) (h : D) :
    (∃ o, OwnedPR.new s e h = .ok o) ↔ s ≤ e :=
  ⟨fun ⟨_, ho⟩ => (ite_ok_eq_ok.1 ho).1, fun hse => ⟨_, ite_ok_eq_ok.2 ⟨hse, rfl⟩⟩⟩

theorem OwnedPR.new_of_valid (r : PR K D) (hr : r.start ≤ r.end_) :
    OwnedPR.new r.start r.end_ r.hash = .ok (OwnedPR.ofPR r) :=
  ite_ok_eq_ok.2 ⟨hr, rfl⟩

theorem Snapshot.iter_ofRanges (l : List (PR K D)) (h : PRValid l) :
    (Snapshot.ofRanges l).iter = .ok l := by
  induction l with
  | nil => rfl
  | cons r rs ih =>
    have e : (Snapshot.ofRanges (r :: rs)).iter =
        (PR.new r.start r.end_ r.hash >>= fun r' =>
          (Snapshot.ofRanges rs).iter >>= fun rs' => pure (r' :: rs')) := List.mapM_cons ..
    rw [e, ih fun x hx => h x (List.mem_cons_of_mem _ hx), PR.new, if_pos (h r List.mem_cons_self)]
    rfl

omit [LinearOrder K] in
/-- A snapshot built from owned ranges obtained by `From<PageRange>` is the snapshot built from the
borrowed ranges (the two `FromIterator` routes agree, also under the derived `PartialEq`). -/
theorem Snapshot.ofOwned_map_ofPR (l : List (PR K D)) :
    Snapshot.ofOwned (l.map OwnedPR.ofPR) = Snapshot.ofRanges l := rfl

omit [LinearOrder K] in
theorem Snapshot.cloneFrom_eq (dst src : Snapshot K D) : dst.cloneFrom src = src := rfl

omit [LinearOrder K] in
theorem Snapshot.clone_eq (s : Snapshot K D) : s.clone = s := rfl

-- `lvl k < 255`: page.rs:233 asserts `!level != 0` on a `u8` (consumed by `Tree.upsert_inv`)
theorem Served.upserts_snap (lvl : K → Nat) (hlvl : ∀ k, lvl k < 255) (hc : HashCfg K V D)
    (ops : List (K × V)) : ∀ (s : Served K V D), Inv lvl hc s.tree →
      ∃ s', s.upserts lvl ops = .ok s' ∧ s'.snap = s.snap ∧ Inv lvl hc s'.tree := by
  induction ops with
  | nil => exact fun s hi => ⟨s, rfl, rfl, hi⟩
  | cons kv rest ih =>
    intro s hi
    obtain ⟨k, v⟩ := kv
    obtain ⟨t', ht, hi', -, -⟩ := Tree.upsert_inv lvl hlvl hc s.tree hi k v
    obtain ⟨s', hs', hsnap, hinv⟩ := ih { s with tree := t' } hi'
    refine ⟨s', ?_, hsnap, hinv⟩
    simp only [Served.upserts, Served.upsert, ht]
    exact hs'

-- `Inv.genRootHash_hashed` and `Hashed.serialise` take `[DecidableEq D]` from DiffTree's section
-- (`diff` needs it); so does their user
variable [DecidableEq D]

theorem Served.take_eq {lvl : K → Nat} {hc : HashCfg K V D} {s : Served K V D}
    (hi : Inv lvl hc s.tree) :
    s.take hc = .ok { tree := s.tree.genRootHash hc,
                      snap := some (Snapshot.ofRanges (pageRanges hc (s.tree.genRootHash hc))) } := by
  simp only [Served.take, hi.genRootHash_hashed.serialise]

end Mst
