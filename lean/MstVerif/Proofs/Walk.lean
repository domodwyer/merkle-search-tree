/-
The walk of `diff` and its depth-instrumented copy as ONE relation `Walk`. The fuel-driven walkers
are tied to it once (`walk_sound`, `Walk.complete`, `forgetDepth_recurseD`); every other fact is an
induction over `Walk`, without fuel or function bodies. `Walk`, the walkers and `PP LP` (DiffWalk)
take the peer first, as `recurse_diff`; `diff`, `diffWalk`, `diffDepth` take `loc peer`, as `diff`.
-/
import MstVerif.Model.DiffDepth
import MstVerif.Proofs.DiffList

namespace Mst
variable {K D : Type} [LinearOrder K]

def prBounds (l : List (PR K D)) : List (DR K) := l.map fun r => (r.start, r.end_)

def PRValid (l : List (PR K D)) : Prop := ∀ r ∈ l, r.start ≤ r.end_

omit [LinearOrder K] in
theorem isBound_prBounds {r : PR K D} {l : List (PR K D)} (h : r ∈ l) :
    IsBound r.start (prBounds l) ∧ IsBound r.end_ (prBounds l) := by
  have hm : (r.start, r.end_) ∈ prBounds l := List.mem_map.2 ⟨r, h, rfl⟩
  exact ⟨⟨_, hm, Or.inl rfl⟩, ⟨_, hm, Or.inr rfl⟩⟩

/-- `assert!(c); x`: the shape of `PageRange::new` and of the two `RangeList::insert`s. -/
theorem ite_ok_eq_ok {ε α : Type} {c : Prop} [Decidable c] {m : ε} {x y : α} :
    (if c then Except.ok x else Except.error m) = Except.ok y ↔ c ∧ y = x := by
  by_cases h : c
  · rw [if_pos h, Except.ok.injEq, eq_comm]
    exact (and_iff_right h).symm
  · rw [if_neg h]
    exact ⟨nofun, fun h' => absurd h'.1 h⟩

theorem PR_new_ok_iff (s e : K) (h : D) : (∃ r, PR.new s e h = .ok r) ↔ s ≤ e :=
  ⟨fun ⟨_, hr⟩ => (ite_ok_eq_ok.1 hr).1, fun hse => ⟨_, ite_ok_eq_ok.2 ⟨hse, rfl⟩⟩⟩

theorem Builder.inconsistent_eq_ok {b b' : Builder K} {s e : K} :
    b.inconsistent s e = .ok b' ↔ s ≤ e ∧ b' = { b with bad := b.bad ++ [(s, e)] } :=
  ite_ok_eq_ok

theorem Builder.consistent_eq_ok {b b' : Builder K} {s e : K} :
    b.consistent s e = .ok b' ↔ s ≤ e ∧ b' = { b with good := b.good ++ [(s, e)] } :=
  ite_ok_eq_ok

theorem supersetOf_iff (a b : PR K D) :
    a.supersetOf b = true ↔ a.start ≤ b.start ∧ b.end_ ≤ a.end_ := by
  simp [PR.supersetOf]

theorem supersetOf_eq_false (a b : PR K D) :
    a.supersetOf b = false ↔ ¬ (a.start ≤ b.start ∧ b.end_ ≤ a.end_) := by
  rw [← supersetOf_iff, Bool.not_eq_true]

theorem supersetOf_refl (a : PR K D) : a.supersetOf a = true := by
  simp [PR.supersetOf]

theorem advWithin_cons_pos {parent x : PR K D} {r : List (PR K D)}
    (h : parent.supersetOf x = true) : advWithin parent (x :: r) = (some x, r) := by
  simp [advWithin, h]

/-- The hypothesis of `Walk.stop` and `Walk.leaf`: the next page, if any, is outside `parent`.
`x ∈ l.head?` unfolds to `l.head? = some x`, as `diffWalk_head_within` spells it. -/
theorem advWithin_eq_none {parent : PR K D} {l : List (PR K D)} :
    advWithin parent l = (none, l) ↔ ∀ x ∈ l.head?, parent.supersetOf x = false := by
  -- along `advWithin`: no page; the next page `x` inside `parent`; outside
  fun_cases advWithin parent l with
  | case1 => exact ⟨fun _ => nofun, fun _ => rfl⟩
  | case2 x r h => exact ⟨nofun, fun hx => absurd ((hx x rfl).symm.trans h) Bool.false_ne_true⟩
  | case3 x r h => exact ⟨fun _ y hy => by cases hy; exact Bool.eq_false_iff.2 h, fun _ => rfl⟩

theorem advWithin_cases (parent : PR K D) (l : List (PR K D)) :
    advWithin parent l = (none, l) ∨ ∃ x r, l = x :: r ∧ parent.supersetOf x = true := by
  fun_cases advWithin parent l with
  | case1 => exact Or.inl rfl
  | case2 x r h => exact Or.inr ⟨x, r, rfl, h⟩
  | case3 x r h => exact Or.inl rfl

theorem skipSubtree_suffix (root : PR K D) (l : List (PR K D)) : skipSubtree root l <:+ l := by
  fun_induction skipSubtree root l with
  | case1 => exact List.suffix_refl _
  | case2 v rest hs ih => exact ih.trans (List.suffix_cons _ _)
  | case3 v rest hs => exact List.suffix_refl _

theorem skipSubtree_all (r : PR K D) (rest : List (PR K D))
    (hsub : ∀ v ∈ rest, r.supersetOf v = true) : skipSubtree r rest = [] := by
  fun_induction skipSubtree r rest with
  | case1 => rfl
  | case2 v t hs ih => exact ih fun w hw => hsub w (List.mem_cons_of_mem _ hw)
  | case3 v t hs => exact absurd (hsub v List.mem_cons_self) hs

theorem shrinkLocal_suffix {p l0 l : PR K D} {loc loc2 : List (PR K D)}
    (h : shrinkLocal p l0 loc = (l, loc2)) : loc2 <:+ loc := by
  fun_induction shrinkLocal p l0 loc with
  | case1 l0 => cases h; exact List.suffix_refl _
  | case2 l0 v rest hs ih => exact (ih h).trans (List.suffix_cons _ _)
  | case3 l0 v rest hs => cases h; exact List.suffix_refl _

theorem shrinkLocal_fst {p l0 l : PR K D} {loc loc2 : List (PR K D)}
    (h : shrinkLocal p l0 loc = (l, loc2)) : l = l0 ∨ l ∈ loc := by
  fun_induction shrinkLocal p l0 loc with
  | case1 l0 => cases h; exact Or.inl rfl
  | case2 l0 v rest hs ih =>
    exact Or.inr ((ih h).elim (fun e => e ▸ List.mem_cons_self) (List.mem_cons_of_mem _))
  | case3 l0 v rest hs => cases h; exact Or.inl rfl

/-- A successful drain (diff.rs:168-175). In order: split, dropped pages `pre`, stop, builder. -/
theorem drainSubtree_ok {root : PR K D} {peer peer' : List (PR K D)} {b b' : Builder K}
    (h : drainSubtree root peer b = .ok (peer', b')) :
    ∃ pre, peer = pre ++ peer' ∧ (∀ v ∈ pre, root.supersetOf v = true ∧ v.start ≤ v.end_) ∧
      (∀ v ∈ peer'.head?, root.supersetOf v = false) ∧
      b' = { b with bad := b.bad ++ pre.map fun v => (v.start, v.end_) } := by
  -- along `drainSubtree`: no page left; a page below `root` that the builder refuses, or takes
  -- (`ih`); a page not below `root`
  fun_induction drainSubtree root peer b with
  | case1 b =>
    cases h
    exact ⟨[], rfl, nofun, nofun, by rw [List.map_nil, List.append_nil]⟩
  | case2 v rest b hs e he => cases h
  | case3 v rest b hs b1 hb1 ih =>
    obtain ⟨hv, rfl⟩ := Builder.inconsistent_eq_ok.1 hb1
    obtain ⟨pre, rfl, hpre, hstop, rfl⟩ := ih h
    refine ⟨v :: pre, rfl, List.forall_mem_cons.2 ⟨⟨hs, hv⟩, hpre⟩, hstop, ?_⟩
    rw [List.map_cons, List.append_assoc, List.singleton_append]
  | case4 v rest b hs =>
    cases h
    exact ⟨[], rfl, nofun, fun w hw => by cases hw; exact Bool.eq_false_iff.2 hs,
      by rw [List.map_nil, List.append_nil]⟩

theorem drainSubtree_suffix {root : PR K D} {peer peer' : List (PR K D)} {b b' : Builder K}
    (h : drainSubtree root peer b = .ok (peer', b')) : peer' <:+ peer := by
  obtain ⟨pre, rfl, -⟩ := drainSubtree_ok h
  exact List.suffix_append _ _

theorem drainSubtree_total (root : PR K D) (peer : List (PR K D)) (hv : PRValid peer)
    (b : Builder K) : ∃ peer' b', drainSubtree root peer b = .ok (peer', b') := by
  fun_induction drainSubtree root peer b with
  | case1 b => exact ⟨[], b, rfl⟩
  | case2 v rest b hs e he =>
    rw [Builder.inconsistent_eq_ok.2 ⟨hv v List.mem_cons_self, rfl⟩] at he
    cases he
  | case3 v rest b hs b1 hb1 ih => exact ih fun r hr => hv r (List.mem_cons_of_mem _ hr)
  | case4 v rest b hs => exact ⟨_, _, rfl⟩

/-- `local.is_superset_of(&p)` on the peeked local page (diff.rs:220-221). -/
def locSup (p : PR K D) : List (PR K D) → Bool
  | lh :: _ => lh.supersetOf p
  | [] => false

/-- diff.rs:237-240 -/
def walkStart (root : PR K D) : Option (PR K D) → K
  | .some v => v.end_
  | .none => root.start

/-- diff.rs:245-248 -/
def walkEnd (p : PR K D) : List (PR K D) → K
  | lh :: _ => if p.end_ < lh.start then p.end_ else lh.start
  | [] => p.end_

/-- `v.start().min(p.end())` (diff.rs:247). -/
theorem walkEnd_cons (p lh : PR K D) (t : List (PR K D)) :
    walkEnd p (lh :: t) = min lh.start p.end_ := by
  rw [walkEnd, min_def]
  split_ifs with h1 h2 h2
  · exact absurd h2 (not_le_of_gt h1)
  · rfl
  · rfl
  · exact absurd (le_of_not_gt h1) h2

theorem walkEnd_le (p : PR K D) (loc : List (PR K D)) : walkEnd p loc ≤ p.end_ := by
  cases loc with
  | nil => exact le_refl _
  | cons lh t => rw [walkEnd_cons]; exact min_le_right _ _

theorem walkEnd_eq (p : PR K D) (loc : List (PR K D)) :
    walkEnd p loc = p.end_ ∨ ∃ lh ∈ loc, walkEnd p loc = lh.start := by
  -- along `walkEnd`: a local page that starts behind `p`'s end; one that does not; no local page
  fun_cases walkEnd p loc with
  | case1 lh t h => exact Or.inl rfl
  | case2 lh t h => exact Or.inr ⟨lh, List.mem_cons_self .., rfl⟩
  | case3 => exact Or.inl rfl

/-- The builder after the leaf branch (diff.rs:212-263); the guard `start ≤ end` keeps its push
from failing. -/
def leafB (root : PR K D) (lastP : Option (PR K D)) (p : PR K D) (loc : List (PR K D))
    (b : Builder K) : Builder K :=
  if locSup p loc = true then b
  else if walkStart root lastP ≤ walkEnd p loc then
    { b with bad := b.bad ++ [(walkStart root lastP, walkEnd p loc)] }
  else b

variable [DecidableEq D]

/-- Builder and peer cursor after the mark (diff.rs:292-314), in the order of the model's inner
`match`. The SUCCESS value only: the push fails when `p.start > p.end` (`hv` of `Walk.descend`). -/
def mark (p l : PR K D) (b : Builder K) (peer1 : List (PR K D)) : Builder K × List (PR K D) :=
  if l.hash = p.hash then ({ b with good := b.good ++ [(p.start, p.end_)] }, skipSubtree p peer1)
  else ({ b with bad := b.bad ++ [(p.start, p.end_)] }, peer1)

theorem mark_of_eq {p l : PR K D} {b : Builder K} {peer1 : List (PR K D)} (h : l.hash = p.hash) :
    mark p l b peer1 = ({ b with good := b.good ++ [(p.start, p.end_)] }, skipSubtree p peer1) :=
  if_pos h

theorem mark_of_ne {p l : PR K D} {b : Builder K} {peer1 : List (PR K D)} (h : l.hash ≠ p.hash) :
    mark p l b peer1 = ({ b with bad := b.bad ++ [(p.start, p.end_)] }, peer1) :=
  if_neg h

theorem mark_cases {p l : PR K D} {b b1 : Builder K} {peer1 peer2 : List (PR K D)}
    (h : mark p l b peer1 = (b1, peer2)) :
    (l.hash = p.hash ∧ b1 = { b with good := b.good ++ [(p.start, p.end_)] } ∧
      peer2 = skipSubtree p peer1) ∨
    (l.hash ≠ p.hash ∧ b1 = { b with bad := b.bad ++ [(p.start, p.end_)] } ∧ peer2 = peer1) := by
  by_cases hh : l.hash = p.hash
  · rw [mark_of_eq hh] at h
    cases h
    exact Or.inl ⟨hh, rfl, rfl⟩
  · rw [mark_of_ne hh] at h
    cases h
    exact Or.inr ⟨hh, rfl, rfl⟩

theorem mark_suffix {p l : PR K D} {b b1 : Builder K} {peer1 peer2 : List (PR K D)}
    (h : mark p l b peer1 = (b1, peer2)) : peer2 <:+ peer1 := by
  rcases mark_cases h with ⟨-, -, rfl⟩ | ⟨-, -, rfl⟩
  · exact skipSubtree_suffix p peer1
  · exact List.suffix_refl _

/-! ### Step equations

Tactic steps on the unfolded body of a walker are slow: one equation per branch, about variables.
Open the walkers by `rw [f.eq_def]`: `unfold f` also opens the recursive calls on the right, and
`rw [f]` needs `lastP` to be a constructor (the equation compiler split on it). -/

/-- The leaf branch of either walker; `f` is what is returned around the builder. About variables:
`exact` identifies `c`, `s`, `e`, matches in the walkers, with `locSup`, `walkStart`, `walkEnd`. -/
theorem guarded_push {α : Type} (c : Prop) [Decidable c] (b : Builder K) (s e : K)
    (f : Builder K → α) :
    (if c then Except.ok (f b) else
      if s ≤ e then
        (match b.inconsistent s e with
          | .error x => Except.error x
          | .ok b' => Except.ok (f b'))
      else Except.ok (f b)) =
    (Except.ok (f (if c then b else if s ≤ e then { b with bad := b.bad ++ [(s, e)] } else b)) :
      Except String α) := by
  split_ifs with h1 h2
  · rfl
  · rw [Builder.inconsistent_eq_ok.2 ⟨h2, rfl⟩]
  · rfl

theorem recurseDiffD_stop {fuel : Nat} {root : PR K D} {lastP : Option (PR K D)}
    {peer loc : List (PR K D)} {b : Builder K}
    (h : advWithin root peer = (none, peer)) :
    recurseDiffD (fuel + 1) root lastP peer loc b = .ok (peer, loc, b, 0) := by
  rw [recurseDiffD.eq_def]
  simp only [h]

theorem recurseDiffD_leaf {fuel : Nat} {root p : PR K D} {lastP : Option (PR K D)}
    {peer1 loc : List (PR K D)} {b : Builder K}
    (hp : root.supersetOf p = true) (hl : advWithin p loc = (none, loc)) :
    recurseDiffD (fuel + 1) root lastP (p :: peer1) loc b =
      .ok (peer1, loc, leafB root lastP p loc b, 0) := by
  rw [recurseDiffD.eq_def]
  simp only [advWithin_cons_pos hp, hl]
  exact guarded_push _ b _ _ fun b' => (peer1, loc, b', 0)

/-- `hp` in the `simp only` set also discharges the `debug_assert!` of diff.rs:272: it repeats the
test `maybe_advance_within` just made. `split_ifs` is on the digest test of `mark`. Likewise in
`recurseDiff_descend`. -/
theorem recurseDiffD_descend {fuel : Nat} {root p l0 l : PR K D} {lastP : Option (PR K D)}
    {peer1 loc1 loc2 : List (PR K D)} {b : Builder K}
    (hp : root.supersetOf p = true) (hl : p.supersetOf l0 = true)
    (hsl : shrinkLocal p l0 loc1 = (l, loc2)) :
    recurseDiffD (fuel + 1) root lastP (p :: peer1) (l0 :: loc1) b =
      if p.start ≤ p.end_ then
        match recurseSubtreeD fuel p (mark p l b peer1).2 loc2 (mark p l b peer1).1 with
        | .error e => .error e
        | .ok (peer3, loc3, b2, d1) =>
          match recurseDiffD fuel root (some p) peer3 loc3 b2 with
          | .error e => .error e
          | .ok (peer4, loc4, b3, d2) => .ok (peer4, loc4, b3, max d1 d2)
      else .error "range_list.rs:26" := by
  rw [recurseDiffD.eq_def]
  by_cases hv : p.start ≤ p.end_
  · simp only [advWithin_cons_pos hp, advWithin_cons_pos hl, hp, hsl, Bool.not_true,
      Bool.false_eq_true, if_false, Builder.inconsistent_eq_ok.2 ⟨hv, rfl⟩,
      Builder.consistent_eq_ok.2 ⟨hv, rfl⟩, mark, if_pos hv]
    split_ifs
    · rfl
    · rfl
  · simp only [advWithin_cons_pos hp, advWithin_cons_pos hl, hp, hsl, Bool.not_true,
      Bool.false_eq_true, if_false, Builder.inconsistent, Builder.consistent, if_neg hv]
    split_ifs
    · rfl
    · rfl

/-- `recurse_subtree` without its `debug_assert` (diff.rs:177), which the drain makes true. -/
theorem recurseSubtreeD_succ (fuel : Nat) (root : PR K D) (peer loc : List (PR K D))
    (b : Builder K) :
    recurseSubtreeD (fuel + 1) root peer loc b =
      match recurseDiffD fuel root none peer loc b with
      | .error e => .error e
      | .ok (peer1, loc1, b1, d) =>
        match drainSubtree root peer1 b1 with
        | .error e => .error e
        | .ok (peer2, b2) => .ok (peer2, loc1, b2, d + 1) := by
  rw [recurseSubtreeD]
  rcases recurseDiffD fuel root none peer loc b with e | ⟨peer1, loc1, b1, d⟩
  · rfl
  dsimp only
  rcases hdrain : drainSubtree root peer1 b1 with e | ⟨peer2, b2⟩
  · rfl
  obtain ⟨pre, -, -, hstop, -⟩ := drainSubtree_ok hdrain
  cases peer2 with
  | nil => rfl
  | cons v rest =>
    dsimp only
    rw [hstop v rfl]
    rfl

theorem recurseDiff_stop {fuel : Nat} {root : PR K D} {lastP : Option (PR K D)}
    {peer loc : List (PR K D)} {b : Builder K}
    (h : advWithin root peer = (none, peer)) :
    recurseDiff (fuel + 1) root lastP peer loc b = .ok (peer, loc, b) := by
  rw [recurseDiff.eq_def]
  simp only [h]

theorem recurseDiff_leaf {fuel : Nat} {root p : PR K D} {lastP : Option (PR K D)}
    {peer1 loc : List (PR K D)} {b : Builder K}
    (hp : root.supersetOf p = true) (hl : advWithin p loc = (none, loc)) :
    recurseDiff (fuel + 1) root lastP (p :: peer1) loc b =
      .ok (peer1, loc, leafB root lastP p loc b) := by
  rw [recurseDiff.eq_def]
  simp only [advWithin_cons_pos hp, hl]
  exact guarded_push _ b _ _ fun b' => (peer1, loc, b')

theorem recurseDiff_descend {fuel : Nat} {root p l0 l : PR K D} {lastP : Option (PR K D)}
    {peer1 loc1 loc2 : List (PR K D)} {b : Builder K}
    (hp : root.supersetOf p = true) (hl : p.supersetOf l0 = true)
    (hsl : shrinkLocal p l0 loc1 = (l, loc2)) :
    recurseDiff (fuel + 1) root lastP (p :: peer1) (l0 :: loc1) b =
      if p.start ≤ p.end_ then
        match recurseSubtree fuel p (mark p l b peer1).2 loc2 (mark p l b peer1).1 with
        | .error e => .error e
        | .ok (peer3, loc3, b2) => recurseDiff fuel root (some p) peer3 loc3 b2
      else .error "range_list.rs:26" := by
  rw [recurseDiff.eq_def]
  by_cases hv : p.start ≤ p.end_
  · simp only [advWithin_cons_pos hp, advWithin_cons_pos hl, hp, hsl, Bool.not_true,
      Bool.false_eq_true, if_false, Builder.inconsistent_eq_ok.2 ⟨hv, rfl⟩,
      Builder.consistent_eq_ok.2 ⟨hv, rfl⟩, mark, if_pos hv]
    split_ifs
    · rfl
    · rfl
  · simp only [advWithin_cons_pos hp, advWithin_cons_pos hl, hp, hsl, Bool.not_true,
      Bool.false_eq_true, if_false, Builder.inconsistent, Builder.consistent, if_neg hv]
    split_ifs
    · rfl
    · rfl

def forgetDepth (r : Except String (List (PR K D) × List (PR K D) × Builder K × Nat)) :
    Except String (List (PR K D) × List (PR K D) × Builder K) :=
  match r with
  | .error e => .error e
  | .ok (p, l, b', _) => .ok (p, l, b')

/-- Errors included. The two walkers call each other, hence the joint statement. -/
theorem forgetDepth_recurseD : ∀ fuel : Nat,
    (∀ (root : PR K D) (lastP : Option (PR K D)) (peer loc : List (PR K D)) (b : Builder K),
      forgetDepth (recurseDiffD fuel root lastP peer loc b) =
        recurseDiff fuel root lastP peer loc b) ∧
    (∀ (root : PR K D) (peer loc : List (PR K D)) (b : Builder K),
      forgetDepth (recurseSubtreeD fuel root peer loc b) =
        recurseSubtree fuel root peer loc b) := by
  intro fuel
  induction fuel with
  | zero =>
    constructor
    · intro root lastP peer loc b
      rfl
    · intro root peer loc b
      rfl
  | succ fuel ih =>
    obtain ⟨ihD, ihS⟩ := ih
    constructor
    · intro root lastP peer loc b
      rcases advWithin_cases root peer with h1 | ⟨p, peer1, rfl, hp⟩
      · rw [recurseDiffD_stop h1, recurseDiff_stop h1]; rfl
      rcases advWithin_cases p loc with h2 | ⟨l0, loc1, rfl, hl⟩
      · rw [recurseDiffD_leaf hp h2, recurseDiff_leaf hp h2]; rfl
      rcases hsl : shrinkLocal p l0 loc1 with ⟨l, loc2⟩
      rw [recurseDiffD_descend hp hl hsl, recurseDiff_descend hp hl hsl]
      split_ifs
      · rw [← ihS]
        rcases recurseSubtreeD fuel p _ _ _ with e | ⟨peer3, loc3, b2, d1⟩
        · rfl
        dsimp only [forgetDepth]
        rw [← ihD]
        rcases recurseDiffD fuel root (some p) peer3 loc3 b2 with e | ⟨peer4, loc4, b3, d2⟩
        · rfl
        · rfl
      · rfl
    · intro root peer loc b
      rw [recurseSubtreeD, recurseSubtree, ← ihD root none peer loc b]
      rcases recurseDiffD fuel root none peer loc b with e | ⟨peer1, loc1, b1, d⟩
      · rfl
      dsimp only [forgetDepth]
      rcases drainSubtree root peer1 b1 with e | ⟨peer2, b2⟩
      · rfl
      dsimp only
      cases peer2 with
      | nil => rfl
      | cons v rest =>
        dsimp only
        split_ifs
        · rfl
        · rfl

theorem recurseDiff_ok_iff {fuel : Nat} {root : PR K D} {lastP : Option (PR K D)}
    {peer loc : List (PR K D)} {b : Builder K} {peer' loc' : List (PR K D)} {b' : Builder K} :
    recurseDiff fuel root lastP peer loc b = .ok (peer', loc', b') ↔
    ∃ d, recurseDiffD fuel root lastP peer loc b = .ok (peer', loc', b', d) := by
  rw [← (forgetDepth_recurseD fuel).1]
  rcases recurseDiffD fuel root lastP peer loc b with e | ⟨p, l, b1, d⟩
  · exact ⟨nofun, nofun⟩
  · simp only [forgetDepth, Except.ok.injEq, Prod.mk.injEq]
    constructor
    · rintro ⟨rfl, rfl, rfl⟩; exact ⟨d, rfl, rfl, rfl, rfl⟩
    · rintro ⟨_, rfl, rfl, rfl, -⟩; exact ⟨rfl, rfl, rfl⟩

/-- Big-step relation of a successful `recurse_diff` loop below `root`, `d` `recurse_subtree` frames
deep. No mutual partner: `recurse_subtree` is the sub-walk and the drain of `descend`. -/
inductive Walk : PR K D → Option (PR K D) → List (PR K D) → List (PR K D) → Builder K →
    List (PR K D) → List (PR K D) → Builder K → Nat → Prop
  /-- diff.rs:202-208; `h` is read by `advWithin_eq_none`. -/
  | stop {root lastP peer loc b} (h : advWithin root peer = (none, peer)) :
      Walk root lastP peer loc b peer loc b 0
  /-- diff.rs:210-263 -/
  | leaf {root lastP p peer1 loc b} (hp : root.supersetOf p = true)
      (hl : advWithin p loc = (none, loc)) :
      Walk root lastP (p :: peer1) loc b peer1 loc (leafB root lastP p loc b) 0
  /-- diff.rs:266-319. `hsub`, `hdrain`: `recurse_subtree`, a fresh loop below `p`; its frame is the
  `+ 1`. `hd`: an equation, so that a walk can be built at any stated depth. `ps ls bs ds`: after
  the Sub-walk; `pa ba`: After the drain; `dr`: the Rest of the loop. -/
  | descend {root lastP p peer1 l0 loc1 b l loc2 b1 peer2 ps ls bs ds pa ba peer' loc' b' dr d}
      (hp : root.supersetOf p = true) (hl : p.supersetOf l0 = true)
      (hsl : shrinkLocal p l0 loc1 = (l, loc2)) (hv : p.start ≤ p.end_)
      (hm : mark p l b peer1 = (b1, peer2))
      (hsub : Walk p none peer2 loc2 b1 ps ls bs ds)
      (hdrain : drainSubtree p ps bs = .ok (pa, ba))
      (hrest : Walk root (some p) pa ls ba peer' loc' b' dr)
      (hd : d = max (ds + 1) dr) :
      Walk root lastP (p :: peer1) (l0 :: loc1) b peer' loc' b' d

theorem walk_sound (fuel : Nat) :
    (∀ {root : PR K D} {lastP : Option (PR K D)} {peer loc : List (PR K D)} {b : Builder K}
        {peer' loc' : List (PR K D)} {b' : Builder K} {d : Nat},
      recurseDiffD fuel root lastP peer loc b = .ok (peer', loc', b', d) →
        Walk root lastP peer loc b peer' loc' b' d) ∧
    (∀ {root : PR K D} {peer loc : List (PR K D)} {b : Builder K}
        {peer' loc' : List (PR K D)} {b' : Builder K} {d : Nat},
      recurseSubtreeD fuel root peer loc b = .ok (peer', loc', b', d) →
        ∃ ps bs ds, Walk root none peer loc b ps loc' bs ds ∧
          drainSubtree root ps bs = .ok (peer', b') ∧ d = ds + 1) := by
  induction fuel with
  | zero =>
    constructor
    · intro root lastP peer loc b peer' loc' b' d h
      cases h
    · intro root peer loc b peer' loc' b' d h
      cases h
  | succ fuel ih =>
    obtain ⟨ihD, ihS⟩ := ih
    constructor
    · intro root lastP peer loc b peer' loc' b' d h
      rcases advWithin_cases root peer with h1 | ⟨p, peer1, rfl, hp⟩
      · rw [recurseDiffD_stop h1] at h
        cases h
        exact .stop h1
      rcases advWithin_cases p loc with h2 | ⟨l0, loc1, rfl, hl⟩
      · rw [recurseDiffD_leaf hp h2] at h
        cases h
        exact .leaf hp h2
      rcases hsl : shrinkLocal p l0 loc1 with ⟨l, loc2⟩
      rw [recurseDiffD_descend hp hl hsl] at h
      by_cases hv : p.start ≤ p.end_
      · rw [if_pos hv] at h
        split at h
        · cases h
        · rename_i hS
          split at h
          · cases h
          · rename_i hD
            cases h
            obtain ⟨ps, bs, ds, hw, hdrain, rfl⟩ := ihS hS
            exact .descend hp hl hsl hv rfl hw hdrain (ihD hD) rfl
      · rw [if_neg hv] at h
        cases h
    · intro root peer loc b peer' loc' b' d h
      rw [recurseSubtreeD_succ] at h
      split at h
      · cases h
      · rename_i hD
        split at h
        · cases h
        · rename_i hdrain
          cases h
          exact ⟨_, _, _, ihD hD, hdrain, rfl⟩

theorem descend_cursors {p l0 l : PR K D} {peer1 peer2 ps pa loc1 loc2 ls : List (PR K D)}
    {b b1 bs ba : Builder K} (hsl : shrinkLocal p l0 loc1 = (l, loc2))
    (hm : mark p l b peer1 = (b1, peer2)) (hsub : ps <:+ peer2 ∧ ls <:+ loc2)
    (hdrain : drainSubtree p ps bs = .ok (pa, ba)) :
    ps <:+ peer1 ∧ pa <:+ peer1 ∧ ls <:+ loc1 :=
  have hps := hsub.1.trans (mark_suffix hm)
  ⟨hps, (drainSubtree_suffix hdrain).trans hps, hsub.2.trans (shrinkLocal_suffix hsl)⟩

theorem Walk.suffix {root : PR K D} {lastP peer loc b peer' loc' b' d}
    (h : Walk root lastP peer loc b peer' loc' b' d) : peer' <:+ peer ∧ loc' <:+ loc := by
  induction h with
  | stop => exact ⟨List.suffix_refl _, List.suffix_refl _⟩
  | leaf => exact ⟨List.suffix_cons _ _, List.suffix_refl _⟩
  | descend hp hl hsl hv hm hsub hdrain hrest hd ih1 ih2 =>
    obtain ⟨-, hpa, hls⟩ := descend_cursors hsl hm ih1 hdrain
    exact ⟨(ih2.1.trans hpa).trans (List.suffix_cons _ _),
      (ih2.2.trans hls).trans (List.suffix_cons _ _)⟩

/-- A descend on `n + 1` peer pages spends two units (`recurse_diff`, `recurse_subtree`) and goes on
with at most `n` pages. -/
theorem fuel_descend {n fuel : Nat} (hf : 2 * (n + 1) + 1 ≤ fuel) :
    ∃ f, fuel = f + 2 ∧ ∀ m, m ≤ n → 2 * m + 1 ≤ f :=
  ⟨fuel - 2, by omega, fun m hm => by omega⟩

/-- `2·|peer| + 1` fuel suffices for any walk: `fuel_descend`, and the cursor only advances. -/
theorem Walk.complete {root : PR K D} {lastP peer loc b peer' loc' b' d}
    (h : Walk root lastP peer loc b peer' loc' b' d) :
    ∀ fuel, 2 * peer.length + 1 ≤ fuel →
      recurseDiffD fuel root lastP peer loc b = .ok (peer', loc', b', d) := by
  induction h with
  | stop h =>
    intro fuel hf
    obtain ⟨f, rfl⟩ : ∃ f, fuel = f + 1 :=
      Nat.exists_eq_add_of_le' (le_trans (Nat.le_add_left 1 _) hf)
    exact recurseDiffD_stop h
  | leaf hp hl =>
    intro fuel hf
    obtain ⟨f, rfl⟩ : ∃ f, fuel = f + 1 :=
      Nat.exists_eq_add_of_le' (le_trans (Nat.le_add_left 1 _) hf)
    exact recurseDiffD_leaf hp hl
  | descend hp hl hsl hv hm hsub hdrain hrest hd ih1 ih2 =>
    intro fuel hf
    subst hd
    obtain ⟨f, rfl, hfuel⟩ := fuel_descend hf
    obtain ⟨-, hpa, -⟩ := descend_cursors hsl hm hsub.suffix hdrain
    rw [recurseDiffD_descend hp hl hsl, if_pos hv, hm, recurseSubtreeD_succ,
      ih1 f (hfuel _ (mark_suffix hm).length_le)]
    dsimp only
    rw [hdrain]
    dsimp only
    rw [ih2 (f + 1) (Nat.le_succ_of_le (hfuel _ hpa.length_le))]

/-- On valid PEER pages a walk exists, whatever the local list: only pushes of peer bounds fail. -/
theorem Walk.total (root : PR K D) (lastP : Option (PR K D)) (peer loc : List (PR K D))
    (b : Builder K) (hv : PRValid peer) :
    ∃ peer' loc' b' d, Walk root lastP peer loc b peer' loc' b' d := by
  induction hn : peer.length using Nat.strongRecOn generalizing root lastP peer loc b with
  | _ n ih =>
    rcases advWithin_cases root peer with h1 | ⟨p, peer1, rfl, hp⟩
    · exact ⟨_, _, _, _, .stop h1⟩
    rcases advWithin_cases p loc with h2 | ⟨l0, loc1, rfl, hl⟩
    · exact ⟨_, _, _, _, .leaf hp h2⟩
    rcases hsl : shrinkLocal p l0 loc1 with ⟨l, loc2⟩
    rcases hm : mark p l b peer1 with ⟨b1, peer2⟩
    obtain ⟨hvp, hv1⟩ := List.forall_mem_cons.1 hv
    have h2 := mark_suffix hm
    subst hn
    obtain ⟨ps, ls, bs, ds, hsub⟩ := ih peer2.length
      (Nat.lt_succ_of_le h2.length_le) p none peer2 loc2 b1 (fun r hr => hv1 r (h2.subset hr)) rfl
    obtain ⟨pa, ba, hdrain⟩ := drainSubtree_total p ps
      (fun r hr => hv1 r (h2.subset (hsub.suffix.1.subset hr))) bs
    obtain ⟨-, hpa, -⟩ := descend_cursors hsl hm hsub.suffix hdrain
    obtain ⟨peer', loc', b', dr, hrest⟩ := ih pa.length (Nat.lt_succ_of_le hpa.length_le)
      root (some p) pa ls ba (fun r hr => hv1 r (hpa.subset hr)) rfl
    exact ⟨_, _, _, _, .descend hp hl hsl hvp hm hsub hdrain hrest rfl⟩

end Mst

#print axioms Mst.PR_new_ok_iff
