/-
L9b without trees: "every two-way round creates a new agreement", about lookup functions
`K → Option V`, for ANY merge obeying `MergeLaws` (any join, peer-wins). Both pulls are needed: a
join moves the receiver to `x ⊔ y`, which may differ from BOTH values, and one diff is complete only
under the span condition — so the reverse pull must cover that key, or another differing key be
settled: the case analysis on the two key spans.
-/
import Mathlib.Order.Basic
-- not used below, but with it `≤` on `K` in `CoverF`, `Bounded`, `PullF` elaborates through
-- `LinearOrder → DistribLattice → …`, without it through `LinearOrder → PartialOrder`: the same
-- relation, a different term (`pp.explicit` shows it)
import Mathlib.Order.Lattice

namespace Mst
variable {K V : Type} [LinearOrder K]

/-- Of a merge-on-fetch `f old fetched`. `absorb` (the law `y ⊔ (x ⊔ y) = x ⊔ y`, not
`Replica.absorb`): fetching back what the peer merged from us yields the peer's value. `fixed`: if
fetching `x` left `y` alone, fetching `y` into `x` gives `y`. -/
structure MergeLaws (f : Option V → Option V → Option V) : Prop where
  idem : ∀ x, f x x = x
  none_left : ∀ y, f none y = y
  none_right : ∀ x, f x none = x
  absorb : ∀ x y, y ≠ none → f y (f x y) = f x y
  fixed : ∀ x y, x ≠ none → y ≠ none → f y x = y → f x y = y
  some_right : ∀ x y, y ≠ none → f x y ≠ none
  some_left : ∀ x y, x ≠ none → f x y ≠ none

/-- every key of `R` lies between two keys of `S` (the span condition). The coverer is FIRST here,
second in `SpanCovers tL tP` (DiffTree). `F`: of lookup Functions, not stores or trees. -/
def CoverF (S R : K → Option V) : Prop :=
  ∀ x, R x ≠ none → (∃ y, S y ≠ none ∧ y ≤ x) ∧ (∃ z, S z ≠ none ∧ x ≤ z)

/-- finitely supported, as far as the argument needs: empty, or with a least and a greatest key -/
def Bounded (A : K → Option V) : Prop :=
  (∀ k, A k = none) ∨ ∃ a0 a1, A a0 ≠ none ∧ A a1 ≠ none ∧ ∀ k, A k ≠ none → a0 ≤ k ∧ k ≤ a1

/-- What one pull `X ← Y` does and is guaranteed to fetch (`R` = the keys inside the diff ranges). -/
structure PullF (f : Option V → Option V → Option V) (X Y X' : K → Option V) (R : K → Bool) : Prop where
  lk : ∀ k, X' k = if R k = true then f (X k) (Y k) else X k
  /-- completeness under the span condition (C07) -/
  comp : CoverF Y X → ∀ k, Y k ≠ none → X k ≠ Y k → R k = true
  /-- the sender starts strictly first and ends strictly first: its smallest key is fetched (C04) -/
  head : ∀ y0 x1, Y y0 ≠ none → (∀ k, Y k ≠ none → y0 ≤ k) → (∀ k, X k ≠ none → y0 < k) →
    X x1 ≠ none → (∀ k, Y k ≠ none → k < x1) → R y0 = true

variable {f : Option V → Option V → Option V} {A B B1 A2 X Y X' : K → Option V}
  {R R1 R2 : K → Bool}

theorem PullF.keep (hf : MergeLaws f) (p : PullF f X Y X' R) (k : K) (h : X k = Y k) :
    X' k = Y k := by
  rw [p.lk k]
  split
  · rw [h, hf.idem]
  · exact h

theorem PullF.keys (hf : MergeLaws f) (p : PullF f X Y X' R) (k : K) (h : X k ≠ none) :
    X' k ≠ none := by
  rw [p.lk k]
  split
  · exact hf.some_left _ _ h
  · exact h

/-- "Fetched": by the first pull, whose sender `A` holds `k`; the round then settles `k`. `h2`: the
second pull fetches `k` if the two still differ there. -/
theorem round_agree_fetched (hf : MergeLaws f) (p1 : PullF f B A B1 R1) (p2 : PullF f A B1 A2 R2)
    (k : K) (hr : R1 k = true) (hA : A k ≠ none)
    (h2 : B1 k ≠ none → A k ≠ B1 k → R2 k = true) : A2 k = B1 k := by
  have e1 : B1 k = f (B k) (A k) := by rw [p1.lk k, if_pos hr]
  by_cases hab : A k = B1 k
  · exact PullF.keep hf p2 k hab
  · have hn : B1 k ≠ none := by rw [e1]; exact hf.some_right _ _ hA
    rw [p2.lk k, if_pos (h2 hn hab), e1, hf.absorb _ _ hA]

/-- "Gain": `A` lacks `k`, the second pull fetches it, `A` takes `B1`'s value. -/
theorem round_agree_gain (hf : MergeLaws f) (p2 : PullF f A B1 A2 R2)
    (k : K) (hr : R2 k = true) (hA : A k = none) : A2 k = B1 k := by
  rw [p2.lk k, if_pos hr, hA, hf.none_left]

/-- **One two-way round creates a new agreement**: `B1` is `B` after pulling from `A`, `A2` is `A`
after pulling from `B1`. Cases: `A` covers `B`; only `B` covers `A`; neither, split on which starts
first. Only the last, `B` first, uses `bB1`: the second pull fetches the least key of `B1`. -/
theorem round_agree (hf : MergeLaws f) (p1 : PullF f B A B1 R1) (p2 : PullF f A B1 A2 R2)
    (bA : Bounded A) (bB : Bounded B) (bB1 : Bounded B1) (hne : ∃ k, A k ≠ B k) :
    ∃ k0, A k0 ≠ B k0 ∧ A2 k0 = B1 k0 := by
  -- `B1` keeps every key of `B`
  have hkeys := fun k => PullF.keys hf p1 k
  by_cases cAB : CoverF A B
  · -- the sender of the first pull spans the receiver: both pulls are complete
    have comp1 := p1.comp cAB
    have cB1A : CoverF B1 A := by
      intro x hx
      have : B1 x ≠ none := by
        by_cases hab : B x = A x
        · exact hkeys x (by rw [hab]; exact hx)
        · rw [p1.lk x, if_pos (comp1 x hx hab)]
          exact hf.some_right _ _ hx
      exact ⟨⟨x, this, le_refl _⟩, ⟨x, this, le_refl _⟩⟩
    have comp2 := p2.comp cB1A
    obtain ⟨k, hab⟩ := hne
    refine ⟨k, hab, ?_⟩
    by_cases hA : A k = none
    · have hB : B k ≠ none := by rw [hA] at hab; exact fun e => hab e.symm
      have hB1 : B1 k ≠ none := hkeys k hB
      exact round_agree_gain hf p2 k (comp2 k hB1 (by rw [hA]; exact fun e => hB1 e.symm)) hA
    · exact round_agree_fetched hf p1 p2 k (comp1 k hA (Ne.symm hab)) hA (comp2 k)
  by_cases cBA : CoverF B A
  · -- only the receiver of the first pull spans the sender: it holds a key `x` outside the span
    -- of `A` and still spans `A` after the pull (`hkeys`): the second pull is complete, gains `x`
    have cB1A : CoverF B1 A := fun x hx =>
      let ⟨⟨y, hy, hyx⟩, ⟨z, hz, hxz⟩⟩ := cBA x hx
      ⟨⟨y, hkeys y hy, hyx⟩, ⟨z, hkeys z hz, hxz⟩⟩
    obtain ⟨x, hx⟩ := not_forall.1 cAB
    obtain ⟨hBx, hout⟩ := Classical.not_imp.1 hx
    have hAx : A x = none := not_not.1 fun h => hout ⟨⟨x, h, le_refl _⟩, ⟨x, h, le_refl _⟩⟩
    have hB1x : B1 x ≠ none := hkeys x hBx
    have hAB : A x ≠ B x := by
      rw [hAx]
      exact hBx.symm
    have hAB1 : A x ≠ B1 x := by
      rw [hAx]
      exact hB1x.symm
    exact ⟨x, hAB, round_agree_gain hf p2 x (p2.comp cB1A x hB1x hAB1) hAx⟩
  -- neither span covers the other: both are non-empty
  have hAne : ¬ ∀ k, A k = none := fun h => cBA fun x hx => absurd (h x) hx
  have hBne : ¬ ∀ k, B k = none := fun h => cAB fun x hx => absurd (h x) hx
  rcases bA with h | ⟨a0, a1, ha0, ha1, hA⟩
  · exact absurd h hAne
  rcases bB with h | ⟨b0, b1, hb0, hb1, hB⟩
  · exact absurd h hBne
  have n1 : ¬ (b0 ≤ a0 ∧ a1 ≤ b1) := by
    rintro ⟨h0, h1⟩
    apply cBA
    intro x hx
    exact ⟨⟨b0, hb0, le_trans h0 (hA x hx).1⟩, ⟨b1, hb1, le_trans (hA x hx).2 h1⟩⟩
  have n2 : ¬ (a0 ≤ b0 ∧ b1 ≤ a1) := by
    rintro ⟨h0, h1⟩
    apply cAB
    intro x hx
    exact ⟨⟨a0, ha0, le_trans h0 (hB x hx).1⟩, ⟨a1, ha1, le_trans (hB x hx).2 h1⟩⟩
  rcases lt_or_ge a0 b0 with hlt | hge
  · -- the sender of the first pull starts first, hence ends first: its smallest key is gained
    have hlt1 : a1 < b1 := not_le.1 fun hn => n2 ⟨le_of_lt hlt, hn⟩
    have hr : R1 a0 = true :=
      p1.head a0 b1 ha0 (fun k hk => (hA k hk).1) (fun k hk => lt_of_lt_of_le hlt (hB k hk).1) hb1
        (fun k hk => lt_of_le_of_lt (hA k hk).2 hlt1)
    have hBa0 : B a0 = none := not_not.1 fun h => not_le.2 hlt (hB a0 h).1
    have e1 : B1 a0 = A a0 := by rw [p1.lk a0, if_pos hr, hBa0, hf.none_left]
    exact ⟨a0, by rw [hBa0]; exact ha0, PullF.keep hf p2 a0 e1.symm⟩
  · -- the receiver of the first pull starts first and ends first; so does it after the pull unless
    -- it now spans `A`: either way the second pull fetches its smallest key, which `A` lacks
    have hlt1 : b1 < a1 := not_le.1 fun hn => n1 ⟨hge, hn⟩
    have hgt : b0 < a0 := not_le.1 fun hn => n2 ⟨hn, le_of_lt hlt1⟩
    have hB1b0 : B1 b0 ≠ none := hkeys b0 hb0
    rcases bB1 with h | ⟨c0, c1, hc0, hc1, hC⟩
    · exact absurd (h b0) hB1b0
    have hc0b0 : c0 ≤ b0 := (hC b0 hB1b0).1
    have hc0a0 : c0 < a0 := lt_of_le_of_lt hc0b0 hgt
    have hAc0 : A c0 = none := not_not.1 fun h => not_le.2 hc0a0 (hA c0 h).1
    have hBc0 : B c0 ≠ none := by
      intro h
      apply hc0
      rw [p1.lk c0, h, hAc0]
      split
      · exact hf.none_left _
      · rfl
    have hr2 : R2 c0 = true := by
      by_cases hle : a1 ≤ c1
      · apply p2.comp _ c0 hc0 (by rw [hAc0]; exact fun e => hc0 e.symm)
        intro x hx
        exact ⟨⟨c0, hc0, le_trans (le_of_lt hc0a0) (hA x hx).1⟩,
          ⟨c1, hc1, le_trans (hA x hx).2 hle⟩⟩
      · exact p2.head c0 a1 hc0 (fun k hk => (hC k hk).1)
          (fun k hk => lt_of_lt_of_le hc0a0 (hA k hk).1) ha1
          (fun k hk => lt_of_le_of_lt (hC k hk).2 (not_le.1 hle))
    exact ⟨c0, by rw [hAc0]; exact fun e => hBc0 e.symm, round_agree_gain hf p2 c0 hr2 hAc0⟩

/-- If `B ← A` moves nothing, `A ← B` is the second pull of a round, which settles a key on which
the two differed — at `B`'s value, so `A` moved there. -/
theorem PullF.progress (hf : MergeLaws f) (p1 : PullF f B A B1 R1) (p2 : PullF f A B A2 R2)
    (bA : Bounded A) (bB : Bounded B) (hne : ∃ k, A k ≠ B k) :
    (∃ k, B1 k ≠ B k) ∨ ∃ k, A2 k ≠ A k := by
  by_cases h : ∀ k, B1 k = B k
  · obtain rfl : B1 = B := funext h
    obtain ⟨k0, hdiff, hagree⟩ := round_agree hf p1 p2 bA bB bB hne
    exact Or.inr ⟨k0, fun e => hdiff (e.symm.trans hagree)⟩
  · exact Or.inl (not_forall.1 h)

end Mst

#print axioms Mst.round_agree
