/-
`diff` on the serialisations of two REAL trees (hashed, invariant-satisfying): C08, C12, soundness
of consistent marks, C07, C04. The first iteration of the walk needs only the SHAPE of the two lists
(`pageRanges_decomp`); soundness of consistent marks and completeness go into the pages behind the
ranges (`mem_pageRanges`, Pages) and use `merkle_inj`.
-/
import MstVerif.Proofs.Pages
import MstVerif.Proofs.DiffWalk
import MstVerif.Proofs.History

-- every statement with `D` takes the section's `[DecidableEq D]`, which only `diff` and the walk
-- use; `pageRanges_of_nil` likewise takes `[LinearOrder K]` idly
set_option linter.unusedSectionVars false

namespace Mst
variable {K V D : Type} [LinearOrder K] [DecidableEq D]

/-- A tree as `diff` sees it: reachable-state invariant plus an up-to-date root hash
(i.e. `root_hash()` has been called since the last upsert). -/
structure Hashed (lvl : K → Nat) (hc : HashCfg K V D) (t : Tree K V D) : Prop where
  inv : Inv lvl hc t
  hashed : t.rootHash.isSome

/-- Pre-order pages ↦ (min key, max key, digest). The case distinction mirrors the `nodesNil` early
return of `Tree.serialise`; by `pageRanges_eq` the second case alone would do. -/
def pageRanges (hc : HashCfg K V D) (t : Tree K V D) : List (PR K D) :=
  match t.root.content with
  | [] => []
  | _ :: _ => t.root.preorder.filterMap (rangeOf hc)

theorem Inv.genRootHash_hashed {lvl : K → Nat} {hc : HashCfg K V D} {t : Tree K V D} (h : Inv lvl hc t) :
    Hashed lvl hc (t.genRootHash hc) :=
  let ⟨hinv, _, hsome, _, _⟩ := genRootHash_inv lvl hc t h
  ⟨hinv, hsome⟩

theorem Inv.content_genRootHash {lvl : K → Nat} {hc : HashCfg K V D} {t : Tree K V D}
    (h : Inv lvl hc t) : (t.genRootHash hc).root.content = t.root.content :=
  let ⟨_, _, _, herase, _⟩ := genRootHash_inv lvl hc t h
  content_congr herase

theorem Hashed.ksorted {lvl : K → Nat} {hc : HashCfg K V D} {t : Tree K V D}
    (h : Hashed lvl hc t) : KSorted t.root.content := t.root.sorted_iff_ksorted.1 h.inv.sorted

/-- The root carries a digest, so `genPg` returns it as it is. -/
theorem Hashed.genRootHash_eq {lvl : K → Nat} {hc : HashCfg K V D} {t : Tree K V D}
    (h : Hashed lvl hc t) : t.genRootHash hc = t := by
  obtain ⟨L, d, n, hi, hroot, hrh, -, -⟩ := h.inv.root_cases h.hashed
  obtain ⟨root, rh⟩ := t
  cases hroot
  cases hrh
  rfl

/-- C01 for states. -/
theorem hashed_eq_of_content_eq (lvl : K → Nat) (hc : HashCfg K V D) (t₁ t₂ : Tree K V D)
    (h₁ : Hashed lvl hc t₁) (h₂ : Hashed lvl hc t₂) (h : t₁.root.content = t₂.root.content) :
    t₁ = t₂ := by
  rw [← h₁.genRootHash_eq, ← h₂.genRootHash_eq]
  exact h₁.inv.genRootHash_congr h₂.inv h

theorem pageRanges_of_nil (hc : HashCfg K V D) (t : Tree K V D) (h : t.root.content = []) :
    pageRanges hc t = [] := by
  unfold pageRanges; rw [h]

/-- In an empty tree no page has a range. -/
theorem pageRanges_eq (hc : HashCfg K V D) (t : Tree K V D) :
    pageRanges hc t = t.root.preorder.filterMap (rangeOf hc) := by
  unfold pageRanges
  cases hcnt : t.root.content with
  | cons x xs => rfl
  | nil =>
    symm
    refine List.filterMap_eq_nil_iff.2 fun q hq => ?_
    -- a page with a range holds an entry, and the entries of a page are entries of the tree
    refine Option.eq_none_iff_forall_ne_some.2 fun r hr => ?_
    obtain ⟨⟨a, ha, -⟩, -⟩ := rangeOf_mem hr
    exact List.ne_nil_of_mem (preorder_content_subset t.root q hq a ha) hcnt

theorem mem_pageRanges (hc : HashCfg K V D) (t : Tree K V D) (r : PR K D)
    (hr : r ∈ pageRanges hc t) :
    t.root.content ≠ [] ∧ ∃ q ∈ t.root.preorder, rangeOf hc q = some r := by
  refine ⟨fun e => ?_, List.mem_filterMap.1 (pageRanges_eq hc t ▸ hr)⟩
  rw [pageRanges_of_nil hc t e] at hr
  cases hr

theorem filterMap_of_map_some {α β : Type} (f : α → Option β) (m : List α) (l : List β)
    (h : l.map some = m.map f) : m.filterMap f = l := by
  have : m.filterMap f = (m.map f).filterMap id := by
    rw [List.filterMap_map]; rfl
  rw [this, ← h, List.filterMap_map]
  exact List.filterMap_some

/-- `serialise_page_ranges()` of a hashed tree returns exactly `pageRanges`. -/
theorem Hashed.serialise {lvl : K → Nat} {hc : HashCfg K V D} {t : Tree K V D}
    (h : Hashed lvl hc t) : t.serialise = .ok (some (pageRanges hc t)) := by
  obtain ⟨l, hl, h1, h2⟩ := serialise_spec h.inv h.hashed
  rw [hl]
  by_cases hcnt : t.root.content = []
  · rw [pageRanges_of_nil hc t hcnt, h1 hcnt]
  · rw [pageRanges_eq, filterMap_of_map_some _ _ _ (h2 hcnt)]

/-- Of any sorted tree, hashed or not: a sub-page is sorted, so its first key is below its last. -/
theorem pageRanges_valid (hc : HashCfg K V D) {t : Tree K V D} (hs : t.root.Sorted) :
    PRValid (pageRanges hc t) := by
  intro r hr
  obtain ⟨-, q, hq, hrq⟩ := mem_pageRanges hc t r hr
  obtain ⟨-, z, hz, ez⟩ := rangeOf_mem hrq
  exact ez ▸ (rangeOf_bounds hrq (preorder_sorted _ q hs hq).pw z hz).1

/-- Of any tree. -/
theorem pageRanges_bounds_are_keys (hc : HashCfg K V D) (t : Tree K V D) :
    ∀ r ∈ pageRanges hc t, r.start ∈ t.root.keys ∧ r.end_ ∈ t.root.keys := by
  intro r hr
  obtain ⟨-, q, hq, hrq⟩ := mem_pageRanges hc t r hr
  obtain ⟨⟨a, ha, ea⟩, z, hz, ez⟩ := rangeOf_mem hrq
  have hsub := preorder_content_subset t.root q hq
  exact ⟨List.mem_map.2 ⟨a, hsub a ha, ea⟩, List.mem_map.2 ⟨z, hsub z hz, ez⟩⟩

/-- The root range with the root hash (the root's true digest), then the ranges of the proper
descendants: each within the root range, none spanning it. -/
theorem pageRanges_decomp {lvl : K → Nat} {hc : HashCfg K V D} {t : Tree K V D}
    (h : Hashed lvl hc t) (a z : K × V) (ha : t.root.content.head? = some a)
    (hz : t.root.content.getLast? = some z) :
    ∃ d rest, t.rootHash = some d ∧ t.root.trueHash hc = some d ∧
      pageRanges hc t = { start := a.1, end_ := z.1, hash := d } :: rest ∧
      ∀ v ∈ rest, PR.supersetOf { start := a.1, end_ := z.1, hash := d } v = true ∧
        v.supersetOf { start := a.1, end_ := z.1, hash := d } = false := by
  obtain ⟨L, d, n, hi, hroot, hrh, -, hcase⟩ := h.inv.root_cases h.hashed
  have hd := h.inv.rootHash_true hrh
  have hr : rangeOf hc t.root = some { start := a.1, end_ := z.1, hash := d } :=
    rangeOf_eq_some_iff.2 ⟨a, z, d, ha, hz, hd, rfl⟩
  -- `hcase`: the root is empty or satisfies `LvPg`; an empty root has no first entry `a`
  have hlv : LvPg lvl (L + 1) t.root := hcase.resolve_left fun ⟨hn, hh⟩ => by
    rw [hroot, hn, hh] at ha
    cases ha
  have hs := h.inv.sorted
  rw [hroot] at hr hlv hs
  refine ⟨d, (n.preorder ++ hi.preorder).filterMap (rangeOf hc), hrh, hd, ?_, fun v hv => ?_⟩
  · rw [pageRanges_eq, hroot, Pg.preorder, List.filterMap_cons, hr]
  · obtain ⟨q, hq, hrq⟩ := List.mem_filterMap.1 hv
    have hq' : q ∈ (Pg.some L (some d) n hi).preorder :=
      Pg.mem_preorder_some.2 (.inr (List.mem_append.1 hq))
    exact ⟨(supersetOf_iff _ _).2 (rangeOf_nested hs hq' hr hrq),
      (supersetOf_eq_false _ _).2 (descendant_not_superset hlv.ne_nil hs hq hr hrq)⟩

theorem pageRanges_head (lvl : K → Nat) (hc : HashCfg K V D) (t : Tree K V D)
    (h : Hashed lvl hc t) (a z : K × V) (ha : t.root.content.head? = some a)
    (hz : t.root.content.getLast? = some z) :
    ∃ d rest, t.rootHash = some d ∧ pageRanges hc t = { start := a.1, end_ := z.1, hash := d } :: rest :=
  let ⟨d, rest, hrh, _, hpr, _⟩ := pageRanges_decomp h a z ha hz
  ⟨d, rest, hrh, hpr⟩

/-- A diff of two real trees never panics. -/
theorem diff_trees_ok (lvl : K → Nat) (hc : HashCfg K V D) (tL tP : Tree K V D)
    (hL : Hashed lvl hc tL) (hP : Hashed lvl hc tP) :
    ∃ out, diff (pageRanges hc tL) (pageRanges hc tP) = .ok out ∧ DRChain out ∧ DRValid out := by
  obtain ⟨out, h1, h2, h3, -⟩ := diff_total (pageRanges hc tL) (pageRanges hc tP)
    (pageRanges_valid hc hP.inv.sorted)
  exact ⟨out, h1, h2, h3⟩

/-- By `pageRanges_decomp` the walk marks the root consistent and nothing else (`diff_same`). -/
theorem diff_trees_self {lvl : K → Nat} {hc : HashCfg K V D} {t : Tree K V D}
    (h : Hashed lvl hc t) :
    diff (pageRanges hc t) (pageRanges hc t) = .ok [] := by
  by_cases hnil : t.root.content = []
  · rw [pageRanges_of_nil hc t hnil]; rfl
  obtain ⟨a, z, ha, hz⟩ := exists_head_last hnil
  obtain ⟨d, rest, -, -, hpr, hdesc⟩ := pageRanges_decomp h a z ha hz
  have hvalid := pageRanges_valid hc h.inv.sorted
  rw [hpr] at hvalid ⊢
  exact diff_same _ _ (hvalid _ List.mem_cons_self) (fun v hv => (hdesc v hv).1)
    fun v hv => (hdesc v (List.mem_of_head? hv)).2

/-- C08: identical content ⇒ empty diff (the two trees are the same tree). -/
theorem diff_trees_same_content (lvl : K → Nat) (hc : HashCfg K V D) (tL tP : Tree K V D)
    (hL : Hashed lvl hc tL) (hP : Hashed lvl hc tP) (h : tL.root.content = tP.root.content) :
    diff (pageRanges hc tL) (pageRanges hc tP) = .ok [] := by
  rw [hashed_eq_of_content_eq lvl hc tL tP hL hP h]
  exact diff_trees_self hP

/-- The peer's smallest and largest keys enclose all local keys (vacuous for an empty local tree). -/
def SpanCovers (tL tP : Tree K V D) : Prop :=
  ∀ x ∈ tL.root.keys, (∃ a ∈ tP.root.keys, a ≤ x) ∧ (∃ b ∈ tP.root.keys, x ≤ b)

/-- Whoever holds every local entry encloses the local keys: each is its own bound. -/
theorem SpanCovers.of_subset {tL tP : Tree K V D}
    (h : ∀ x ∈ tL.root.content, x ∈ tP.root.content) : SpanCovers tL tP := by
  intro k hk
  obtain ⟨x, hx, rfl⟩ := List.mem_map.1 hk
  exact ⟨⟨x.1, List.mem_map_of_mem (h x hx), le_refl _⟩, ⟨x.1, List.mem_map_of_mem (h x hx), le_refl _⟩⟩

/-- Between two sorted, non-empty contents the span condition compares the ends (`a z`: peer;
`a' z'`: local). -/
theorem spanCovers_iff_ends {tL tP : Tree K V D} (hsL : PW tL.root.content)
    (hsP : PW tP.root.content) {a z a' z' : K × V}
    (ha : tP.root.content.head? = some a) (hz : tP.root.content.getLast? = some z)
    (ha' : tL.root.content.head? = some a') (hz' : tL.root.content.getLast? = some z') :
    SpanCovers tL tP ↔ a.1 ≤ a'.1 ∧ z'.1 ≤ z.1 := by
  constructor
  · intro h
    obtain ⟨⟨x, hx, hxa⟩, -⟩ := h _ (List.mem_map_of_mem (List.mem_of_head? ha'))
    obtain ⟨-, ⟨y, hy, hzy⟩⟩ := h _ (List.mem_map_of_mem (List.mem_of_getLast? hz'))
    obtain ⟨x', hx', rfl⟩ := List.mem_map.1 hx
    obtain ⟨y', hy', rfl⟩ := List.mem_map.1 hy
    exact ⟨le_trans (hsP.head_le ha hx') hxa, le_trans hzy (hsP.le_last hz hy')⟩
  · intro h k hk
    obtain ⟨x, hx, rfl⟩ := List.mem_map.1 hk
    exact ⟨⟨a.1, List.mem_map_of_mem (List.mem_of_head? ha), le_trans h.1 (hsL.head_le ha' hx)⟩,
      ⟨z.1, List.mem_map_of_mem (List.mem_of_getLast? hz), le_trans (hsL.le_last hz' hx) h.2⟩⟩

/-- The last sentence of C07: an empty replica obtains the peer's entire key span in a single
diff. -/
theorem diff_trees_local_empty (lvl : K → Nat) (hc : HashCfg K V D) (tL tP : Tree K V D)
    (hL : Hashed lvl hc tL) (hP : Hashed lvl hc tP) (he : tL.root.content = [])
    (a z : K × V) (ha : tP.root.content.head? = some a) (hz : tP.root.content.getLast? = some z) :
    diff (pageRanges hc tL) (pageRanges hc tP) = .ok [(a.1, z.1)] := by
  obtain ⟨d, rest, -, hpr⟩ := pageRanges_head lvl hc tP hP a z ha hz
  have hle : a.1 ≤ z.1 := hP.inv.sorted.pw.head_le ha (List.mem_of_getLast? hz)
  rw [pageRanges_of_nil hc tL he, hpr, diff_eq_walk, diffWalk_local_empty _ _ hle]
  exact intoDiffVec_single _ _

/-- Partially overlapping or disjoint spans: one range, starting at the peer's smallest key (which
the local tree lacks). Trees local first, end points peer first: `a z` of the peer, `a' z'` of the
local tree. -/
theorem diff_trees_peer_starts_first (lvl : K → Nat) (hc : HashCfg K V D) (tL tP : Tree K V D)
    (hL : Hashed lvl hc tL) (hP : Hashed lvl hc tP)
    (a z a' z' : K × V)
    (ha : tP.root.content.head? = some a) (hz : tP.root.content.getLast? = some z)
    (ha' : tL.root.content.head? = some a') (hz' : tL.root.content.getLast? = some z')
    (h1 : a.1 < a'.1) (h2 : z.1 < z'.1) :
    diff (pageRanges hc tL) (pageRanges hc tP) = .ok [(a.1, min a'.1 z.1)] := by
  obtain ⟨d, rest, -, hpr⟩ := pageRanges_head lvl hc tP hP a z ha hz
  obtain ⟨d', rest', -, hpr'⟩ := pageRanges_head lvl hc tL hL a' z' ha' hz'
  have hle : a.1 ≤ z.1 := hP.inv.sorted.pw.head_le ha (List.mem_of_getLast? hz)
  rw [hpr, hpr', diff_eq_walk, diffWalk_peer_first _ _ _ _ hle h1 h2]
  exact intoDiffVec_single _ _

/-- C12 (tree part): every returned range lies within the peer's smallest and largest key, starts
at a key the peer holds and ends at a key held by the peer or the local tree. -/
theorem diff_trees_confined (lvl : K → Nat) (hc : HashCfg K V D) (tL tP : Tree K V D)
    (hL : Hashed lvl hc tL) (hP : Hashed lvl hc tP) (out : List (DR K))
    (h : diff (pageRanges hc tL) (pageRanges hc tP) = .ok out) :
    ∀ r ∈ out, r.1 ∈ tP.root.keys ∧ (r.2 ∈ tP.root.keys ∨ r.2 ∈ tL.root.keys) ∧
      (∀ a z : K × V, tP.root.content.head? = some a → tP.root.content.getLast? = some z →
        a.1 ≤ r.1 ∧ r.2 ≤ z.1) := by
  have hkL := pageRanges_bounds_are_keys hc tL
  have hkP := pageRanges_bounds_are_keys hc tP
  have hvP := pageRanges_valid hc hP.inv.sorted
  intro r hr
  obtain ⟨b, out', hspec⟩ := diff_spec (pageRanges hc tL) (pageRanges hc tP) hvP
  obtain rfl : out' = out := Except.ok.inj (hspec.diff.symm.trans h)
  obtain ⟨h1, h2⟩ := hspec.bounds (· ∈ tP.root.keys) (fun k => k ∈ tP.root.keys ∨ k ∈ tL.root.keys)
    hkP (fun p hp => ⟨.inl (hkP p hp).1, .inl (hkP p hp).2⟩) (fun l hl => .inr (hkL l hl).1) r hr
  refine ⟨h1, h2, fun a z ha hz => ?_⟩
  -- the range is covered by inconsistent marks, and those lie within the peer's root range
  obtain ⟨d, rest, -, hpr⟩ := pageRanges_head lvl hc tP hP a z ha hz
  have hw := hspec.walk
  rw [hpr] at hw
  have hwithin : ∀ s ∈ b.bad, a.1 ≤ s.1 ∧ s.2 ≤ z.1 := fun s hs => by
    obtain ⟨_, hroot, hok⟩ := (diffWalk_marks hw).1 s hs
    obtain rfl := Option.some.inj hroot
    exact hok.within
  have hrv : r.1 ≤ r.2 := hspec.valid r hr
  obtain ⟨s1, hs1, hm1⟩ := hspec.out_sub_bad r.1 ⟨r, hr, le_refl _, hrv⟩
  obtain ⟨s2, hs2, hm2⟩ := hspec.out_sub_bad r.2 ⟨r, hr, hrv, le_refl _⟩
  exact ⟨le_trans (hwithin s1 hs1).1 hm1.1, le_trans hm2.2 (hwithin s2 hs2).2⟩

/-- Consistent marks are sound: a peer entry inside a range marked consistent is held identically
by the local tree (up to collisions of the page digest). -/
theorem consistent_sound (lvl : K → Nat) (hc : HashCfg K V D) (tL tP : Tree K V D)
    (hL : Hashed lvl hc tL) (hP : Hashed lvl hc tP)
    (hcf : CollisionFree hc (tL.root.allToks hc ++ tP.root.allToks hc))
    (b : Builder K) (hw : diffWalk (pageRanges hc tL) (pageRanges hc tP) = .ok b)
    (kv : K × V) (hkv : kv ∈ tP.root.content) (hcov : Covered kv.1 b.good) :
    kv ∈ tL.root.content := by
  obtain ⟨g, hg, hg1, hg2⟩ := hcov
  obtain ⟨p, hp, l, hl, hgp, hh⟩ := (diffWalk_marks hw).2 g hg
  -- `P`, `Q`: the pages behind the peer and the local range. Equal digests, equal contents
  -- (`merkle_inj` below the root, hence `preorder_allToks`); `P` holds every entry of its tree
  -- inside its range (`preorder_contiguous`)
  obtain ⟨-, P, hPm, hPr⟩ := mem_pageRanges hc tP p hp
  obtain ⟨-, Q, hQm, hQr⟩ := mem_pageRanges hc tL l hl
  have hcf' : CollisionFree hc (Q.allToks hc ++ P.allToks hc) :=
    hcf.mono fun x hx => List.mem_append.2
      ((List.mem_append.1 hx).imp (preorder_allToks hc _ Q hQm x) (preorder_allToks hc _ P hPm x))
  have hcont : Q.content = P.content :=
    merkle_inj hc Q P hcf' (by rw [rangeOf_hash hQr, rangeOf_hash hPr, hh])
  subst hgp
  have hin : kv ∈ P.content :=
    preorder_contiguous hP.inv.sorted hPm hPr hkv hg1 hg2
  exact preorder_content_subset tL.root Q hQm kv (hcont ▸ hin)

/-- C07: under the span condition every entry the peer holds that the local tree lacks, or holds
with another value digest, lies inside a returned range. -/
theorem diff_trees_complete (lvl : K → Nat) (hc : HashCfg K V D) (tL tP : Tree K V D)
    (hL : Hashed lvl hc tL) (hP : Hashed lvl hc tP)
    (hcf : CollisionFree hc (tL.root.allToks hc ++ tP.root.allToks hc))
    (hspan : SpanCovers tL tP)
    (kv : K × V) (hkv : kv ∈ tP.root.content) (hdiff : kv ∉ tL.root.content) :
    ∃ out, diff (pageRanges hc tL) (pageRanges hc tP) = .ok out ∧ Covered kv.1 out := by
  have hsP := hP.inv.sorted
  obtain ⟨a, z, ha, hz⟩ := exists_head_last (List.ne_nil_of_mem hkv)
  obtain ⟨d, restP, -, hdP, hprP, -⟩ := pageRanges_decomp hP a z ha hz
  have haz : a.1 ≤ z.1 := hsP.pw.head_le ha (List.mem_of_getLast? hz)
  obtain ⟨b, out, hspec⟩ :=
    diff_spec (pageRanges hc tL) (pageRanges hc tP) (pageRanges_valid hc hP.inv.sorted)
  have hw := hspec.walk
  refine ⟨out, hspec.diff, hspec.bad_diff_good_sub_out _ ?_ fun hgood =>
    hdiff (consistent_sound lvl hc tL tP hL hP hcf b hw kv hkv hgood)⟩
  -- the whole peer span is marked inconsistent
  refine ⟨(a.1, z.1), ?_, And.intro (hsP.pw.head_le ha hkv) (hsP.pw.le_last hz hkv)⟩
  rw [hprP] at hw
  by_cases hcL : tL.root.content = []
  · rw [pageRanges_of_nil hc tL hcL, diffWalk_local_empty _ _ haz] at hw
    cases hw
    exact List.mem_singleton.2 rfl
  obtain ⟨a', z', ha', hz'⟩ := exists_head_last hcL
  obtain ⟨d', restL, -, hdL, hprL, hdesc⟩ := pageRanges_decomp hL a' z' ha' hz'
  rw [hprL] at hw
  -- the peer root spans the local root
  have hsup := (spanCovers_iff_ends hL.inv.sorted.pw hsP.pw ha hz ha' hz').1 hspan
  refine diffWalk_head_within _ _ _ _ haz ((supersetOf_iff _ _).2 hsup) ?_ ?_ b hw
  · -- a local range spanning the peer root would span the local root, and no descendant does
    intro v hv
    refine (supersetOf_eq_false _ _).2 fun hs => ?_
    exact (supersetOf_eq_false _ _).1 (hdesc v (List.mem_of_head? hv)).2
      ⟨le_trans hs.1 hsup.1, le_trans hsup.2 hs.2⟩
  · -- the root digests differ, else the contents would agree
    intro hdd
    have hcont : tL.root.content = tP.root.content :=
      merkle_inj hc tL.root tP.root hcf (by rw [hdL, hdP]; exact congrArg some hdd)
    exact hdiff (hcont ▸ hkv)

theorem peer_subset_of_diff_nil {lvl : K → Nat} {hc : HashCfg K V D} {tL tP : Tree K V D}
    (hL : Hashed lvl hc tL) (hP : Hashed lvl hc tP)
    (hcf : CollisionFree hc (tL.root.allToks hc ++ tP.root.allToks hc))
    (hspan : SpanCovers tL tP)
    (h : diff (pageRanges hc tL) (pageRanges hc tP) = .ok []) :
    ∀ kv ∈ tP.root.content, kv ∈ tL.root.content := by
  intro kv hkv
  by_contra hn
  obtain ⟨out, hout, hcov⟩ := diff_trees_complete lvl hc tL tP hL hP hcf hspan kv hkv hn
  cases h.symm.trans hout
  exact covered_nil _ hcov

/-- C04 when one span encloses the other (or `tA` is empty): `tA` then holds all of `tB`, so it
encloses `tB` in turn. -/
theorem content_eq_of_diff_nil_of_span {lvl : K → Nat} {hc : HashCfg K V D} {tA tB : Tree K V D}
    (hA : Hashed lvl hc tA) (hB : Hashed lvl hc tB)
    (hcf : CollisionFree hc (tA.root.allToks hc ++ tB.root.allToks hc))
    (h1 : diff (pageRanges hc tA) (pageRanges hc tB) = .ok [])
    (h2 : diff (pageRanges hc tB) (pageRanges hc tA) = .ok []) (hspan : SpanCovers tA tB) :
    tA.root.content = tB.root.content := by
  have hBA := peer_subset_of_diff_nil hA hB hcf hspan h1
  have hAB := peer_subset_of_diff_nil hB hA hcf.swap (.of_subset hBA) h2
  exact ksorted_ext _ _ hA.ksorted hB.ksorted fun kv => ⟨hAB kv, hBA kv⟩

/-- C04: empty diffs in both directions imply equal content. -/
theorem no_false_convergence (lvl : K → Nat) (hc : HashCfg K V D) (tA tB : Tree K V D)
    (hA : Hashed lvl hc tA) (hB : Hashed lvl hc tB)
    (hcf : CollisionFree hc (tA.root.allToks hc ++ tB.root.allToks hc))
    (h1 : diff (pageRanges hc tA) (pageRanges hc tB) = .ok [])
    (h2 : diff (pageRanges hc tB) (pageRanges hc tA) = .ok []) :
    tA.root.content = tB.root.content := by
  have hAB := content_eq_of_diff_nil_of_span hA hB hcf h1 h2
  have hBA := fun h => (content_eq_of_diff_nil_of_span hB hA hcf.swap h2 h1 h).symm
  -- an empty tree is enclosed by any other
  by_cases hAe : tA.root.content = []
  · exact hAB (.of_subset fun x hx => absurd hx (hAe ▸ List.not_mem_nil))
  by_cases hBe : tB.root.content = []
  · exact hBA (.of_subset fun x hx => absurd hx (hBe ▸ List.not_mem_nil))
  obtain ⟨a0, a1, ha0, ha1⟩ := exists_head_last hAe
  obtain ⟨b0, b1, hb0, hb1⟩ := exists_head_last hBe
  have hsA := hA.inv.sorted.pw
  have hsB := hB.inv.sorted.pw
  have spanAB := (spanCovers_iff_ends hsA hsB hb0 hb1 ha0 ha1).2
  have spanBA := (spanCovers_iff_ends hsB hsA ha0 ha1 hb0 hb1).2
  -- one span encloses the other, or one tree starts and ends strictly first: the diff against it
  -- is then one range, against `h1` or `h2`
  rcases le_or_gt b0.1 a0.1 with hlo | hlo
  · rcases le_or_gt a1.1 b1.1 with hhi | hhi
    · exact hAB (spanAB ⟨hlo, hhi⟩)
    · rcases lt_or_eq_of_le hlo with hlt | heq
      · cases h1.symm.trans
          (diff_trees_peer_starts_first lvl hc tA tB hA hB b0 b1 a0 a1 hb0 hb1 ha0 ha1 hlt hhi)
      · exact hBA (spanBA ⟨le_of_eq heq.symm, le_of_lt hhi⟩)
  · rcases le_or_gt b1.1 a1.1 with hhi | hhi
    · exact hBA (spanBA ⟨le_of_lt hlo, hhi⟩)
    · cases h2.symm.trans
        (diff_trees_peer_starts_first lvl hc tB tA hB hA a0 a1 b0 b1 ha0 ha1 hb0 hb1 hlo hhi)

/-- `hlvl`: levels are `u8`; page.rs:233 asserts `!level != 0`: level ≠ 255 (`upsertPg_spec`). -/
theorem hashed_of_run (lvl : K → Nat) (hlvl : ∀ k, lvl k < 255) (hc : HashCfg K V D)
    (ops : List (Op K V)) :
    ∃ t, run lvl hc (ops ++ [.hash]) = .ok t ∧ Hashed lvl hc t ∧ t.root.content = finalContent ops := by
  obtain ⟨t₀, r₀, i₀, c₀⟩ := run_inv lvl hlvl hc ops
  exact ⟨t₀.genRootHash hc, run_snoc r₀ .hash, i₀.genRootHash_hashed, i₀.content_genRootHash.trans c₀⟩

end Mst

#print axioms Mst.pageRanges_valid
#print axioms Mst.pageRanges_head
#print axioms Mst.pageRanges_bounds_are_keys
#print axioms Mst.hashed_eq_of_content_eq
#print axioms Mst.diff_trees_ok
#print axioms Mst.diff_trees_same_content
#print axioms Mst.diff_trees_local_empty
#print axioms Mst.diff_trees_peer_starts_first
#print axioms Mst.diff_trees_confined
#print axioms Mst.consistent_sound
#print axioms Mst.diff_trees_complete
#print axioms Mst.no_false_convergence
