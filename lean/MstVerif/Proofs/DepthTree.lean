/-
C13 (stack part) for REAL trees: `diff` recurses no deeper than the longest chain of nested ranges
in the peer list, and in the serialisation of a real tree such a chain is no longer than a
root-to-leaf path has levels — bounded (`C13_depth_real_tree`), so only untrusted input can exhaust
the stack (F2).
-/
import MstVerif.Proofs.DiffDepth
import MstVerif.Proofs.DiffTree

namespace Mst
variable {K V D : Type} [LinearOrder K] [DecidableEq D]

omit [DecidableEq D] in
/-- Pages with keys in `X` against pages with keys in `Y`, `X` below `Y`: the first range ends before
the second does. -/
theorem cross_not_superset (hc : HashCfg K V D) {l₁ l₂ : List (Pg K V D)} {X Y : List (K × V)}
    (h1 : ∀ q ∈ l₁, ∀ x ∈ q.content, x ∈ X) (h2 : ∀ q ∈ l₂, ∀ x ∈ q.content, x ∈ Y)
    (hXY : ∀ x ∈ X, ∀ y ∈ Y, x.1 < y.1) :
    ∀ a ∈ l₁.filterMap (rangeOf hc), ∀ b ∈ l₂.filterMap (rangeOf hc),
      a.supersetOf b = false := by
  intro a ha b hb
  obtain ⟨q, hq, hqa⟩ := List.mem_filterMap.1 ha
  obtain ⟨q', hq', hqb⟩ := List.mem_filterMap.1 hb
  obtain ⟨-, za, hza, ea⟩ := rangeOf_mem hqa
  obtain ⟨-, zb, hzb, eb⟩ := rangeOf_mem hqb
  have hlt : a.end_ < b.end_ := ea ▸ eb ▸ hXY _ (h1 q hq _ hza) _ (h2 q' hq' _ hzb)
  exact (supersetOf_eq_false a b).2 fun h => not_le_of_gt hlt h.2

mutual
/-- Nested chains among a subtree's ranges are no longer than a STRICT bound `b` on its levels: a
chain cannot cross from an earlier sibling block into a later one (`NB.append`,
`cross_not_superset`), so it runs down one branch, each page adding at most its own range. -/
theorem nbPg (lvl : K → Nat) (hc : HashCfg K V D) : ∀ (p : Pg K V D) (b : Nat),
    LvPg lvl b p → PW p.content → NB (p.preorder.filterMap (rangeOf hc)) b
  | .none, _, _, _ => NB.nil
  | .some L c n h, b, hlv, hs => by
    have hs' : PW (n.content ++ h.content) := hs
    have happ := NB.append (nbNd lvl hc n L hlv.nodes hs'.left) (nbPg lvl hc h L hlv.high hs'.right)
      (cross_not_superset hc (preorder_content_subsetNd n) (preorder_content_subset h)
        fun x hx y hy => hs'.cross hx hy)
    rw [Pg.preorder, List.filterMap_cons, List.filterMap_append]
    cases rangeOf hc (.some L c n h) with
    -- `none` does not occur for a stratified page (`rangeOf_exists`); covering it costs nothing
    | none => exact happ.mono (Nat.le_of_lt hlv.lt_bound)
    | some r => exact (happ.cons r).mono hlv.lt_bound
theorem nbNd (lvl : K → Nat) (hc : HashCfg K V D) : ∀ (n : Nd K V D) (L : Nat),
    LvNd lvl L n → PW n.content → NB (n.preorder.filterMap (rangeOf hc)) L
  | .nil, _, _, _ => NB.nil
  | .cons lt k v tl, L, hlv, hs => by
    have hs' : PW (lt.content ++ (k, v) :: tl.content) := hs
    rw [Nd.preorder, List.filterMap_append]
    exact NB.append (nbPg lvl hc lt L hlv.lt hs'.left)
      (nbNd lvl hc tl L hlv.tail hs'.right.tail)
      (cross_not_superset hc (preorder_content_subset lt) (preorder_content_subsetNd tl)
        fun x hx y hy => hs'.cross hx (List.mem_cons_of_mem _ hy))
end

def Pg.level? : Pg K V D → Option Nat
  | .none => Option.none
  | .some L _ _ _ => Option.some L

/-- Intuition: nested ranges belong to ancestors, whose levels strictly decrease. The proof does not
identify ancestors; it is `nbPg` at the strict bound `L + 1` of the root. -/
theorem pageRanges_nest_chain_le {lvl : K → Nat} {hc : HashCfg K V D} {t : Tree K V D}
    (hsh : LvRoot lvl t.root) (hs : t.root.Sorted) {L : Nat} (hL : t.root.level? = some L) :
    NB (pageRanges hc t) (L + 1) := by
  obtain ⟨L', c, n, hi, hroot, hcase⟩ := hsh.cases
  obtain rfl : L = L' := by
    rw [hroot] at hL
    exact (Option.some.inj hL).symm
  rcases hcase with ⟨-, rfl, rfl⟩ | hlv
  · have hnil : t.root.content = [] := by
      rw [hroot]
      rfl
    rw [pageRanges_of_nil hc t hnil]
    exact NB.nil
  · rw [pageRanges_eq]
    exact nbPg lvl hc t.root (L + 1) hlv hs.pw

end Mst

#print axioms Mst.pageRanges_nest_chain_le
