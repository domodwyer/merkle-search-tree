/-
L9d: C06 with stale in-flight snapshots. Schedules over {write, atomic pull, hash, fetchStale with
ARBITRARY ranges}: every step moves the stores by `StoreStep` (`syncStep2_spec`), so SyncN's safety
invariant holds throughout. Refinement (`syncRun2_inv`) and safety (`syncRun2_safe_join`) are here,
liveness in `Props/C06.lean`.
-/
import MstVerif.Proofs.SyncN

namespace Mst
variable {K V D : Type} [LinearOrder K] [SemilatticeSup V] [DecidableEq V] [DecidableEq D]

/-- The join of everything written by the write operations of an extended schedule. -/
def written2 (ops : List (SyncOp2 K V)) (k : K) : Option V :=
  ops.foldl (fun acc op =>
    match op with
    | .write _ k' v => if k' = k then (match acc with | none => some v | some w => some (max w v)) else acc
    | _ => acc) none

/-- what the bound on the sweeps in `C06_live_stale` counts -/
def countWrites2 (ops : List (SyncOp2 K V)) : Nat :=
  (ops.filter fun op => match op with | .write _ _ _ => true | _ => false).length

/-- the plain schedule made of the write operations of an extended schedule -/
def plainOf : List (SyncOp2 K V) → List (SyncOp K V)
  | [] => []
  | .write r k v :: ops => SyncOp.write r k v :: plainOf ops
  | .pull _ _ :: ops => plainOf ops
  | .hash _ :: ops => plainOf ops
  | .fetchStale _ _ _ :: ops => plainOf ops

-- `plainOf` and `countWrites2` use no instance of the `variable` line; without `omit` the three
-- lemmas about them alone would take the three
omit [LinearOrder K] [SemilatticeSup V] [DecidableEq V] in
theorem plainOf_cons (op : SyncOp2 K V) (ops : List (SyncOp2 K V)) :
    plainOf (op :: ops) = plainOf [op] ++ plainOf ops := by
  cases op <;> rfl

omit [DecidableEq V] in
theorem written2_eq (ops : List (SyncOp2 K V)) (k : K) : written2 ops k = written (plainOf ops) k := by
  unfold written2 written
  generalize (none : Option V) = acc
  induction ops generalizing acc with
  | nil => rfl
  | cons op ops ih =>
    cases op with
    | write r k' v => exact ih _
    | pull i j => exact ih _
    | hash r => exact ih _
    | fetchStale i j R => exact ih _

omit [LinearOrder K] [SemilatticeSup V] [DecidableEq V] in
theorem countWrites2_eq (ops : List (SyncOp2 K V)) : countWrites2 ops = (plainOf ops).length := by
  unfold countWrites2
  induction ops with
  | nil => rfl
  | cons op ops ih =>
    cases op with
    | write r k v => exact congrArg Nat.succ ih
    | pull i j => exact ih
    | hash r => exact ih
    | fetchStale i j R => exact ih

omit [LinearOrder K] [SemilatticeSup V] [DecidableEq V] in
/-- reads the `GenBy (plainOf ops)` clause of `syncRun2_safe_join` as one about writes of `ops` -/
theorem mem_plainOf (ops : List (SyncOp2 K V)) (r : Nat) (k : K) (v : V)
    (h : SyncOp.write r k v ∈ plainOf ops) : SyncOp2.write r k v ∈ ops := by
  induction ops with
  | nil => cases h
  | cons op ops ih =>
    cases op with
    | write r' k' v' =>
      rcases List.mem_cons.1 h with h | h
      · cases h
        exact List.mem_cons_self
      · exact List.mem_cons_of_mem _ (ih h)
    | pull i j => exact List.mem_cons_of_mem _ (ih h)
    | hash r' => exact List.mem_cons_of_mem _ (ih h)
    | fetchStale i j R => exact List.mem_cons_of_mem _ (ih h)

/-- Every step of an extended schedule moves the stores by `StoreStep`. Its index `w`, what the step
adds to the history of writes, is `plainOf [op]`, except that a write to a missing replica leaves
no trace — hence the last clause, whose premise is C06's side condition. -/
theorem syncStep2_spec {lvl : K → Nat} (hlvl : ∀ k, lvl k < 255) {hc : HashCfg K V D} (m : Merge)
    {rs : List (Replica K V D)} (hrs : ∀ r ∈ rs, RInv lvl hc r) (op : SyncOp2 K V) :
    ∃ rs' w, syncStep2 lvl hc m rs op = .ok rs' ∧ (∀ r ∈ rs', RInv lvl hc r) ∧
      StoreStep m (storesOf rs) w (storesOf rs') ∧
      ((∀ r k v, op = .write r k v → r < rs.length) → w = plainOf [op]) := by
  cases op with
  | write r k v =>
    obtain ⟨rs', h, hi, hst⟩ := syncStep_write hlvl m hrs r k v
    exact ⟨rs', _, h, hi, hst, fun hw => if_pos (hw r k v rfl)⟩
  | pull i j =>
    obtain ⟨rs', h, hi, hst, -⟩ := syncStep_pull hlvl m hrs i j
    exact ⟨rs', _, h, hi, hst, fun _ => rfl⟩
  | hash r =>
    cases hr : rs[r]? with
    | none => exact ⟨rs, [], by simp only [syncStep2, hr], hrs, .idle, fun _ => rfl⟩
    | some rep =>
      obtain ⟨hH, hC⟩ := (hrs rep (List.mem_of_getElem? hr)).hashed
      refine ⟨rs.set r { rep with tree := rep.tree.genRootHash hc }, [],
        by simp only [syncStep2, hr, setAt], forall_mem_set hrs r ⟨hH.inv, hC⟩, ?_, fun _ => rfl⟩
      rw [storesOf_set_same rs r rep { rep with tree := rep.tree.genRootHash hc } hr rfl]
      exact .idle
  | fetchStale i j R =>
    by_cases hij : i = j
    · exact ⟨rs, [], by simp only [syncStep2, hij, if_true], hrs, .idle, fun _ => rfl⟩
    cases hi : rs[i]? with
    | none => exact ⟨rs, [], by simp only [syncStep2, hij, hi, if_false], hrs, .idle, fun _ => rfl⟩
    | some ri =>
      cases hj : rs[j]? with
      | none =>
        exact ⟨rs, [], by simp only [syncStep2, hij, hi, hj, if_false], hrs, .idle, fun _ => rfl⟩
      | some rj =>
        obtain ⟨ri', h1, h2, h3⟩ :=
          absorbAll_spec hlvl m ri (hrs ri (List.mem_of_getElem? hi)) (fetch rj.store R)
        refine ⟨rs.set i ri', [], by simp only [syncStep2, hij, hi, hj, h1, setAt, if_false],
          forall_mem_set hrs i h2, ?_, fun _ => rfl⟩
        rw [storesOf_set, h3]
        exact .recv R (storesOf_getElem? rs i ri hi) (mem_storesOf rs rj (List.mem_of_getElem? hj))

theorem run2_good_from {lvl : K → Nat} (hlvl : ∀ k, lvl k < 255) {hc : HashCfg K V D}
    {done : List (SyncOp K V)} {n : Nat} {rs : List (Replica K V D)} (h : Good lvl hc done n rs)
    (todo : List (SyncOp2 K V)) (hw : ∀ r k v, SyncOp2.write r k v ∈ todo → r < n) :
    ∃ rs', syncRun2 lvl hc .joinMax rs todo = .ok rs' ∧
      Good lvl hc (done ++ plainOf todo) n rs' := by
  induction todo generalizing done rs with
  | nil => exact ⟨rs, rfl, by rwa [plainOf, List.append_nil]⟩
  | cons op todo ih =>
    obtain ⟨rs1, w, hs1, hi1, hst, hw1⟩ := syncStep2_spec hlvl .joinMax h.inv op
    have haddr : ∀ r k v, op = .write r k v → r < rs.length := by
      intro r k v e
      subst e
      rw [h.len]
      exact hw r k v List.mem_cons_self
    have h1 := h.step hi1 hst
    rw [hw1 haddr] at h1
    obtain ⟨rs2, hs2, h2⟩ := ih h1 fun r k v h => hw r k v (List.mem_cons_of_mem _ h)
    refine ⟨rs2, by simp only [syncRun2, hs1, hs2], ?_⟩
    rwa [plainOf_cons, ← List.append_assoc]

theorem run2_good {lvl : K → Nat} (hlvl : ∀ k, lvl k < 255) (hc : HashCfg K V D)
    (ops : List (SyncOp2 K V)) (n : Nat) (hw : ∀ r k v, SyncOp2.write r k v ∈ ops → r < n) :
    ∃ rs, syncRun2 lvl hc .joinMax (freshReplicas n : List (Replica K V D)) ops = .ok rs ∧
      Good lvl hc (plainOf ops) n rs :=
  run2_good_from hlvl (Good.fresh lvl hc n) ops hw

/-- Safety under the join merge (ANY join-semilattice) for extended schedules: stale / arbitrary
range fetches can neither lose nor invent data — every store is below the join of everything written,
that join is the least upper bound of the stores, every stored value is a join of written values. -/
theorem syncRun2_safe_join (lvl : K → Nat) (hlvl : ∀ k, lvl k < 255) (hc : HashCfg K V D)
    (n : Nat) (ops : List (SyncOp2 K V))
    (hw : ∀ op ∈ ops, match op with | .write r _ _ => r < n | _ => True) :
    ∃ rs, syncRun2 lvl hc .joinMax (freshReplicas n : List (Replica K V D)) ops = .ok rs ∧ rs.length = n ∧
      (∀ r ∈ rs, RInv lvl hc r) ∧
      (∀ r ∈ rs, ∀ k, optLe (lookupKV k r.store) (written2 ops k)) ∧
      (∀ k u, (∀ r ∈ rs, optLe (lookupKV k r.store) u) → optLe (written2 ops k) u) ∧
      (∀ r ∈ rs, ∀ k x, lookupKV k r.store = some x → GenBy (plainOf ops) k x) := by
  obtain ⟨rs, hrun, h⟩ := run2_good hlvl hc ops n fun r k v h => hw _ h
  simp only [written2_eq]
  exact ⟨rs, hrun, h.len, h.inv, h.safe.replicas⟩

/-- `syncRun_inv` for extended schedules. -/
theorem syncRun2_inv {lvl : K → Nat} (hlvl : ∀ k, lvl k < 255) {hc : HashCfg K V D} (m : Merge)
    {rs : List (Replica K V D)} (hrs : ∀ r ∈ rs, RInv lvl hc r) (ops : List (SyncOp2 K V)) :
    ∃ rs', syncRun2 lvl hc m rs ops = .ok rs' ∧ rs'.length = rs.length ∧
      ∀ r ∈ rs', RInv lvl hc r := by
  induction ops generalizing rs with
  | nil => exact ⟨rs, rfl, rfl, hrs⟩
  | cons op ops ih =>
    obtain ⟨rs1, w, h1, hi1, hst, -⟩ := syncStep2_spec hlvl m hrs op
    obtain ⟨rs2, h2, hl2, hi2⟩ := ih hi1
    exact ⟨rs2, by simp only [syncRun2, h1, h2], hl2.trans hst.length_replicas, hi2⟩

end Mst

#print axioms Mst.syncRun2_safe_join
#print axioms Mst.syncRun2_inv
