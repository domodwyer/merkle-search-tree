/-
L9a: replicas — the tree mirrors the store through writes and pulls (no panic); what one pull
fetches (C07, C04, C08). `hlvl : ∀ k, lvl k < 255`, carried from here on, keeps `upsert` from
failing: page.rs:233 asserts `debug_assert_ne!(!self.level, 0)`, level ≠ 255 (`!`: bitwise NOT on
`u8`). `C14_level_bound` discharges it for the crate's level function on digests of ≤ 32 bytes.
-/
import MstVerif.Model.Sync
import MstVerif.Proofs.DiffTree

-- several statements below take an instance of the `variable` line without using it
set_option linter.unusedSectionVars false

namespace Mst
variable {K V D : Type} [LinearOrder K] [Max V] [DecidableEq D]

/-- No digest collision occurs among any page pre-images (the "up to collisions of the 128-bit page
digest" proviso of C03–C07, assumed for the whole run in the schedule-level theorems). -/
def NoCollisions (hc : HashCfg K V D) : Prop :=
  ∀ p q : Pg K V D, CollisionFree hc (p.allToks hc ++ q.allToks hc)

/-- A replica is consistent: whatever its cache state, the tree is a reachable one (`Inv`) and its
in-order content is the store — the `BTreeMap` beside the tree in `tests/sync.rs`'s `Node`. -/
structure RInv (lvl : K → Nat) (hc : HashCfg K V D) (r : Replica K V D) : Prop where
  inv : Inv lvl hc r.tree
  mirror : r.tree.root.content = r.store

theorem RInv.sorted {lvl : K → Nat} {hc : HashCfg K V D} {r : Replica K V D} (h : RInv lvl hc r) :
    KSorted r.store :=
  h.mirror ▸ (h.inv.sorted : KSorted r.tree.root.content)

theorem Replica.empty_inv (lvl : K → Nat) (hc : HashCfg K V D) :
    RInv lvl hc (Replica.empty : Replica K V D) :=
  ⟨Tree.empty_inv lvl hc, rfl⟩

/-- `absorbAll` on `.store` (`absorbAll_spec`). Each entry meets the store as updated so far, a
repeated key would merge twice: hence `KSorted items` in `lookup_absorbStore`. -/
def absorbStore (m : Merge) : List (K × V) → List (K × V) → List (K × V)
  | s, [] => s
  | s, kv :: rest => absorbStore m (insertKV kv.1 (m.apply (lookupKV kv.1 s) kv.2) s) rest

theorem absorb_spec {lvl : K → Nat} (hlvl : ∀ k, lvl k < 255) {hc : HashCfg K V D} (m : Merge)
    (r : Replica K V D) (hr : RInv lvl hc r) (kv : K × V) :
    ∃ r', r.absorb lvl m kv = .ok r' ∧ RInv lvl hc r' ∧
      r'.store = insertKV kv.1 (m.apply (lookupKV kv.1 r.store) kv.2) r.store := by
  obtain ⟨t', hrun, hinv, hcontent, -⟩ := Tree.upsert_inv lvl hlvl hc r.tree hr.inv kv.1
    (m.apply (lookupKV kv.1 r.store) kv.2)
  refine ⟨{ store := storeInsert kv.1 (m.apply (lookupKV kv.1 r.store) kv.2) r.store, tree := t' },
    ?_, ⟨hinv, ?_⟩, ?_⟩
  · simp only [Replica.absorb, hrun]
  · simp only [hcontent, hr.mirror, storeInsert_eq]
  · simp only [storeInsert_eq]

theorem absorbAll_spec {lvl : K → Nat} (hlvl : ∀ k, lvl k < 255) {hc : HashCfg K V D} (m : Merge)
    (r : Replica K V D) (hr : RInv lvl hc r) (items : List (K × V)) :
    ∃ r', r.absorbAll lvl m items = .ok r' ∧ RInv lvl hc r' ∧ r'.store = absorbStore m r.store items := by
  induction items generalizing r with
  | nil => exact ⟨r, rfl, hr, rfl⟩
  | cons kv rest ih =>
    obtain ⟨r1, h1, hr1, hs1⟩ := absorb_spec hlvl m r hr kv
    obtain ⟨r2, h2, hr2, hs2⟩ := ih r1 hr1
    refine ⟨r2, ?_, hr2, ?_⟩
    · simp only [Replica.absorbAll, h1, h2]
    · rw [hs2, hs1]; rfl

theorem write_spec {lvl : K → Nat} (hlvl : ∀ k, lvl k < 255) {hc : HashCfg K V D} (m : Merge)
    (r : Replica K V D) (hr : RInv lvl hc r) (k : K) (v : V) :
    ∃ r', r.write lvl m k v = .ok r' ∧ RInv lvl hc r' ∧
      r'.store = insertKV k (m.apply (lookupKV k r.store) v) r.store :=
  absorb_spec hlvl m r hr (k, v)

theorem lookup_absorbStore (m : Merge) (s items : List (K × V)) (hi : KSorted items) (k : K) :
    lookupKV k (absorbStore m s items) =
      match lookupKV k items with
      | none => lookupKV k s
      | some v => some (m.apply (lookupKV k s) v) := by
  induction items generalizing s with
  | nil => rfl
  | cons hd rest ih =>
    obtain ⟨k1, v1⟩ := hd
    obtain ⟨hlt, hi'⟩ := ksorted_cons.1 hi
    rw [absorbStore, ih _ hi', lookupKV_insertKV, lookupKV]
    by_cases hk : k1 = k
    · subst hk
      rw [if_pos rfl, if_pos rfl, lookupKV_none_of_lt k1 rest hlt]
    · rw [if_neg hk, if_neg hk]

theorem absorbStore_sorted (m : Merge) (s items : List (K × V)) (hs : KSorted s) :
    KSorted (absorbStore m s items) := by
  induction items generalizing s with
  | nil => exact hs
  | cons kv rest ih => exact ih _ (insertKV_sorted _ _ s hs)

theorem fetch_sorted (s : List (K × V)) (hs : KSorted s) (rs : List (DR K)) : KSorted (fetch s rs) := by
  unfold KSorted fetch at *
  exact hs.sublist (List.filter_sublist.map _)

theorem lookup_fetch (s : List (K × V)) (rs : List (DR K)) (k : K) :
    lookupKV k (fetch s rs) = if inRanges rs k then lookupKV k s else none :=
  lookupKV_filter (inRanges rs) s k

theorem inRanges_nil (k : K) : inRanges ([] : List (DR K)) k = false := rfl

theorem fetch_nil (s : List (K × V)) : fetch s ([] : List (DR K)) = [] :=
  List.filter_eq_nil_iff.2 fun kv _ => by rw [inRanges_nil]; exact Bool.false_ne_true

theorem inRanges_iff (rs : List (DR K)) (k : K) : inRanges rs k = true ↔ Covered k rs := by
  simp only [inRanges, Covered, DR.mem, List.any_eq_true, Bool.and_eq_true, decide_eq_true_eq]

theorem RInv.hashed {lvl : K → Nat} {hc : HashCfg K V D} {r : Replica K V D} (hr : RInv lvl hc r) :
    Hashed lvl hc (r.tree.genRootHash hc) ∧ (r.tree.genRootHash hc).root.content = r.store :=
  ⟨hr.inv.genRootHash_hashed, hr.inv.content_genRootHash.trans hr.mirror⟩

/-- One pull `a ← b`: `a` receives, `b` sends (the model's `recv send`). `pull_lookup` names the
clauses, read keywise, all but the one on range starts. -/
theorem pull_spec (lvl : K → Nat) (hlvl : ∀ k, lvl k < 255) (hc : HashCfg K V D) (m : Merge)
    (a b : Replica K V D) (ha : RInv lvl hc a) (hb : RInv lvl hc b) :
    ∃ ranges a' b', pull lvl hc m a b = .ok (a', b') ∧ RInv lvl hc a' ∧ RInv lvl hc b' ∧
      b'.store = b.store ∧
      a'.store = absorbStore m a.store (fetch b.store ranges) ∧
      -- identical stores exchange nothing (C08)
      (a.store = b.store → ranges = []) ∧
      -- every requested range starts at a key the sender holds (C04/C12)
      (∀ r ∈ ranges, ∃ v, (r.1, v) ∈ b.store) ∧
      -- completeness under the span condition (C07), up to digest collisions
      (NoCollisions hc →
        (∀ x ∈ a.store.map Prod.fst, (∃ y ∈ b.store.map Prod.fst, y ≤ x) ∧ (∃ z ∈ b.store.map Prod.fst, x ≤ z)) →
        ∀ kv ∈ b.store, kv ∉ a.store → inRanges ranges kv.1 = true) ∧
      -- the sender starts strictly first and ends strictly first: its smallest key is fetched
      (∀ a0 a1 b0 b1 : K × V, a.store.head? = some a0 → a.store.getLast? = some a1 →
        b.store.head? = some b0 → b.store.getLast? = some b1 → b0.1 < a0.1 → b1.1 < a1.1 →
        inRanges ranges b0.1 = true) := by
  -- stores named after the trees' contents: the theorems about `diff` on two trees apply as is
  obtain ⟨sa, ta⟩ := a
  obtain ⟨sb, tb⟩ := b
  obtain ⟨hL, rfl⟩ : Hashed lvl hc (ta.genRootHash hc) ∧ (ta.genRootHash hc).root.content = sa :=
    ha.hashed
  obtain ⟨hP, rfl⟩ : Hashed lvl hc (tb.genRootHash hc) ∧ (tb.genRootHash hc).root.content = sb :=
    hb.hashed
  -- `hvalid`: each range has start ≤ end
  obtain ⟨ranges, hd, -, hvalid⟩ := diff_trees_ok lvl hc _ _ hL hP
  obtain ⟨a', hab, hra, hsa⟩ := absorbAll_spec hlvl m
    { store := (ta.genRootHash hc).root.content, tree := ta.genRootHash hc } ⟨hL.inv, rfl⟩
    (fetch (tb.genRootHash hc).root.content ranges)
  refine ⟨ranges, a', { store := (tb.genRootHash hc).root.content, tree := tb.genRootHash hc },
    by simp only [pull, pullRanges, hL.serialise, hP.serialise, hd, hab],
    hra, ⟨hP.inv, rfl⟩, rfl, hsa, ?_, ?_, ?_, ?_⟩
  · intro he
    exact Except.ok.inj (hd.symm.trans (diff_trees_same_content lvl hc _ _ hL hP he))
  · intro r hr
    obtain ⟨kv, hkv, e⟩ := List.mem_map.1 (diff_trees_confined lvl hc _ _ hL hP ranges hd r hr).1
    exact ⟨kv.2, e ▸ hkv⟩
  · intro hnc hspan kv hkv hnot
    obtain ⟨out, ho, hcov⟩ := diff_trees_complete lvl hc _ _ hL hP (hnc _ _) hspan kv hkv hnot
    cases hd.symm.trans ho
    exact (inRanges_iff _ _).2 hcov
  · intro a0 a1 b0 b1 ha0 ha1 hb0 hb1 hlt0 hlt1
    -- the lemma takes the peer's ends first, and the sender `b` is the peer. The diff is the
    -- single range `(b0.1, min a0.1 b1.1)`, starting at `b0.1`
    cases hd.symm.trans
      (diff_trees_peer_starts_first lvl hc _ _ hL hP b0 b1 a0 a1 hb0 hb1 ha0 ha1 hlt0 hlt1)
    exact (inRanges_iff _ _).2
      ⟨_, List.mem_singleton.2 rfl, le_refl _, hvalid _ (List.mem_singleton.2 rfl)⟩

theorem RInv.genRootHash_congr {lvl : K → Nat} {hc : HashCfg K V D} {a b : Replica K V D}
    (ha : RInv lvl hc a) (hb : RInv lvl hc b) (h : a.store = b.store) :
    a.tree.genRootHash hc = b.tree.genRootHash hc :=
  ha.inv.genRootHash_congr hb.inv (by rw [ha.mirror, hb.mirror, h])

/-- A pull depends on the two stores only, not on the trees' cache states, so three ways of hashing
around it agree: `tests/sync.rs` (`sync_round`) hashes the sender in place and a CLONE of the
receiver, the harness (`exec.rs`, `pull_internal`) both in place, the model's `pull` returns both
re-hashed; Rust then upserts into the un-hashed receiver, the model into the re-hashed one. -/
theorem pull_store_congr {lvl : K → Nat} {hc : HashCfg K V D} (m : Merge)
    {a b a' b' : Replica K V D} (ha : RInv lvl hc a) (hb : RInv lvl hc b)
    (ha' : RInv lvl hc a') (hb' : RInv lvl hc b') (h1 : a.store = a'.store) (h2 : b.store = b'.store) :
    pull lvl hc m a b = pull lvl hc m a' b' := by
  simp only [pull, pullRanges, h1, h2, ha.genRootHash_congr ha' h1, hb.genRootHash_congr hb' h2]

end Mst

#print axioms Mst.RInv.sorted
#print axioms Mst.Replica.empty_inv
#print axioms Mst.absorbAll_spec
#print axioms Mst.write_spec
#print axioms Mst.lookup_absorbStore
#print axioms Mst.absorbStore_sorted
#print axioms Mst.fetch_sorted
#print axioms Mst.lookup_fetch
#print axioms Mst.pull_spec
#print axioms Mst.pull_store_congr
