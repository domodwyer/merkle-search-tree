/-
C17, "visitor callbacks are properly nested", as an independent grammar: the full callback sequence
of a traversal is a well-formed page trace.
-/
import MstVerif.Proofs.Traverse

namespace Mst
variable {K V D : Type}

mutual
/-- A page: entry callback (with the high-page flag), the traces of its `n` nodes, exit callback,
then — flagged — the high page's trace, if any. -/
inductive IsPageTrace : Bool → List (Event K V D) → Prop
  | mk (high : Bool) (L : Nat) (c : Option D) (n : Nat) (ns hi : List (Event K V D)) :
      IsNodesTrace n ns → IsOptPageTrace true hi →
      IsPageTrace high ([Event.visitPage L c n high] ++ ns ++ [Event.postPage L] ++ hi)
/-- `n` nodes: per node pre-visit, the lower subtree's page trace (not flagged) if any, visit, post-visit. -/
inductive IsNodesTrace : Nat → List (Event K V D) → Prop
  | nil : IsNodesTrace 0 []
  | cons (n : Nat) (k : K) (v : V) (lt rest : List (Event K V D)) :
      IsOptPageTrace false lt → IsNodesTrace n rest →
      IsNodesTrace (n + 1) ([Event.preNode k v] ++ lt ++ [Event.visitNode k v, Event.postNode k v] ++ rest)
/-- absent, or a page trace with the given flag -/
inductive IsOptPageTrace : Bool → List (Event K V D) → Prop
  | none (flag : Bool) : IsOptPageTrace flag []
  | some (flag : Bool) (t : List (Event K V D)) : IsPageTrace flag t → IsOptPageTrace flag t
end

/-- `tracePg` on a page, in the append form `IsPageTrace` is written in. -/
theorem tracePg_some (high : Bool) (L : Nat) (c : Option D) (n : Nd K V D) (h : Pg K V D) :
    tracePg high (.some L c n h) =
      [Event.visitPage L c n.length high] ++ traceNd n ++ [Event.postPage L] ++ tracePg true h := by
  simp [tracePg]

theorem traceNd_cons (lt : Pg K V D) (k : K) (v : V) (tl : Nd K V D) :
    traceNd (.cons lt k v tl) =
      [Event.preNode k v] ++ tracePg false lt ++ [Event.visitNode k v, Event.postNode k v] ++ traceNd tl := by
  simp [traceNd]

mutual
/-- The callback sequence of every traversal is well formed (the grammar above). -/
theorem tracePg_wellformed : ∀ (high : Bool) (p : Pg K V D), IsOptPageTrace high (tracePg high p)
  | high, .none => .none high
  | high, .some L c n h => .some _ _ (tracePg_some high L c n h ▸
      .mk high L c n.length _ _ (traceNd_wellformed n) (tracePg_wellformed true h))
theorem traceNd_wellformed : ∀ (n : Nd K V D), IsNodesTrace n.length (traceNd n)
  | .nil => .nil
  | .cons lt k v tl => traceNd_cons lt k v tl ▸
      .cons tl.length k v _ _ (tracePg_wellformed false lt) (traceNd_wellformed tl)
end

theorem tracePg_some_wellformed (high : Bool) (L : Nat) (c : Option D) (n : Nd K V D) (h : Pg K V D) :
    IsPageTrace high (tracePg high (.some L c n h)) :=
  tracePg_some high L c n h ▸ .mk high L c n.length _ _ (traceNd_wellformed n) (tracePg_wellformed true h)

end Mst
