/-
Scope note of C06 as a theorem: under PEER-WINS three replicas have a fair schedule (every ordered
pair pulls again and again) that never converges — at the store level, whatever the tree does. So
C06's liveness clause cannot hold for peer-wins with ≥ 3 replicas; it is proved for the join merge.
-/
import MstVerif.Proofs.SyncN
import MstVerif.Proofs.Extras

namespace Mst

def lvl0 : Nat → Nat := fun _ => 0

/-- the single key 7, with values (2,2,3) at the three replicas -/
def pwStart : List (SyncOp Nat Nat) := [.write 0 7 2, .write 1 7 2, .write 2 7 3]

/-- One period: every ordered pair of distinct replicas pulls once. The pulls `1←2, 2←0, 0←1` move
the minority value around; each of the other three happens while its two replicas agree. -/
def pwCycle : List (SyncOp Nat Nat) :=
  [.pull 1 2,            -- (2,3,3)
   .pull 2 1,
   .pull 2 0,            -- (2,3,2)
   .pull 0 2,
   .pull 0 1,            -- (3,3,2)
   .pull 1 0]

theorem pwCycle_isSweep : IsSweep 3 pwCycle :=
  .of_pairs [(1, 2), (2, 1), (2, 0), (0, 2), (0, 1), (1, 0)] (by decide) (by decide)

/-! ### The concrete states of the run

Everything is closed and computable: the start and one period are evaluated (`with_unfolding_all`
because `diff` sorts with `List.mergeSort`, defined by well-founded recursion). -/

/-- page digest of the one-node page `7 ↦ 2` under `perfectCfg` (the identity on the stream):
`kb 7 ++ vb 2` = `4 0⁷ 1` · `0² 1`, no child digest before, no high page after -/
private def pwH2 : List UInt8 := [4, 0, 0, 0, 0, 0, 0, 0, 1, 0, 0, 1]
/-- likewise for `7 ↦ 3`: `4 0⁷ 1` · `0³ 1` -/
private def pwH3 : List UInt8 := [4, 0, 0, 0, 0, 0, 0, 0, 1, 0, 0, 0, 1]

private def pwRep (v : Nat) (c : Option (List UInt8)) : Replica Nat Nat (List UInt8) :=
  { store := [(7, v)], tree := { root := .some 0 c (.cons .none 7 v .nil) .none, rootHash := c } }

/-- after the three writes -/
private def pwA0 : List (Replica Nat Nat (List UInt8)) := [pwRep 2 none, pwRep 2 none, pwRep 3 none]
/-- after an odd number of periods -/
private def pwA1 : List (Replica Nat Nat (List UInt8)) :=
  [pwRep 3 (some pwH3), pwRep 3 (some pwH3), pwRep 2 (some pwH2)]
/-- after an even, positive number of periods -/
private def pwA2 : List (Replica Nat Nat (List UInt8)) :=
  [pwRep 2 (some pwH2), pwRep 2 (some pwH2), pwRep 3 (some pwH3)]

private theorem pw_start : syncRun lvl0 perfectCfg .peerWins (freshReplicas 3) pwStart = .ok pwA0 := by
  with_unfolding_all rfl

private theorem pw_cycle0 : syncRun lvl0 perfectCfg .peerWins pwA0 pwCycle = .ok pwA1 := by
  with_unfolding_all rfl

private theorem pw_cycle1 : syncRun lvl0 perfectCfg .peerWins pwA1 pwCycle = .ok pwA2 := by
  with_unfolding_all rfl

private theorem pw_cycle2 : syncRun lvl0 perfectCfg .peerWins pwA2 pwCycle = .ok pwA1 := by
  with_unfolding_all rfl

private def PwState (rs : List (Replica Nat Nat (List UInt8))) : Prop :=
  rs = pwA0 ∨ rs = pwA1 ∨ rs = pwA2

private theorem pw_cycles (n : Nat) :
    ∀ rs, PwState rs → ∃ rs', syncRun lvl0 perfectCfg .peerWins rs (List.replicate n pwCycle).flatten = .ok rs' ∧ PwState rs' := by
  induction n with
  | zero => intro rs h; exact ⟨rs, rfl, h⟩
  | succ n ih =>
    intro rs h
    have hstep : ∃ rs1, syncRun lvl0 perfectCfg .peerWins rs pwCycle = .ok rs1 ∧ PwState rs1 := by
      rcases h with rfl | rfl | rfl
      · exact ⟨pwA1, pw_cycle0, Or.inr (Or.inl rfl)⟩
      · exact ⟨pwA2, pw_cycle1, Or.inr (Or.inr rfl)⟩
      · exact ⟨pwA1, pw_cycle2, Or.inr (Or.inl rfl)⟩
    obtain ⟨rs1, h1, hs1⟩ := hstep
    obtain ⟨rs2, h2, hs2⟩ := ih rs1 hs1
    refine ⟨rs2, ?_, hs2⟩
    rw [List.replicate_succ, List.flatten_cons, syncRun_append, h1]
    exact h2

private theorem pwState_diverged (rs : List (Replica Nat Nat (List UInt8))) (h : PwState rs) :
    rs.length = 3 ∧ ∃ r₁ ∈ rs, ∃ r₂ ∈ rs, r₁.store ≠ r₂.store := by
  -- in each state the first and the third replica differ
  rcases h with rfl | rfl | rfl
  · exact ⟨rfl, _, .head _, _, .tail _ (.tail _ (.head _)), by decide⟩
  · exact ⟨rfl, _, .head _, _, .tail _ (.tail _ (.head _)), by decide⟩
  · exact ⟨rfl, _, .head _, _, .tail _ (.tail _ (.head _)), by decide⟩

theorem peerWins_fair_schedule_never_converges (n : Nat) :
    ∃ rs : List (Replica Nat Nat (List UInt8)),
      syncRun lvl0 perfectCfg .peerWins (freshReplicas 3) (pwStart ++ (List.replicate n pwCycle).flatten) = .ok rs ∧
      rs.length = 3 ∧ ∃ r₁ ∈ rs, ∃ r₂ ∈ rs, r₁.store ≠ r₂.store := by
  obtain ⟨rs, hrun, hs⟩ := pw_cycles n pwA0 (Or.inl rfl)
  refine ⟨rs, ?_, pwState_diverged rs hs⟩
  rw [syncRun_append, pw_start]
  exact hrun

end Mst

#print axioms Mst.pwCycle_isSweep
#print axioms Mst.peerWins_fair_schedule_never_converges
