/-
L2, lazy hashing (`genPg_spec`, `genRootHash_inv`); L3, canonical shape (`shape_unique`,
`root_unique`); L4, Merkle injectivity up to collisions of page pre-images (`merkle_inj`). L2 and L3
speak through `erase`: what ignores caches agrees on trees with the same erasure. `fooNd` is the
node-list half of the mutual pair with `foo`.
-/
import MstVerif.Proofs.TreeBasics

namespace Mst
variable {K V D : Type}

mutual
theorem hashBytes_erase (hc : HashCfg K V D) (p : Pg K V D) : p.erase.hashBytes hc = p.hashBytes hc :=
  match p with
  | .none => rfl
  | .some _ _ n h => by
    simp only [Pg.erase, Pg.hashBytes, hashBytes_eraseNd hc n, hashBytes_erase hc h]
theorem hashBytes_eraseNd (hc : HashCfg K V D) : (n : Nd K V D) → n.erase.hashBytes hc = n.hashBytes hc
  | .nil => rfl
  | .cons lt k v tl => by
    simp only [Nd.erase, Nd.hashBytes, hashBytes_erase hc lt, hashBytes_eraseNd hc tl]
end

theorem trueHash_erase (hc : HashCfg K V D) (p : Pg K V D) : p.erase.trueHash hc = p.trueHash hc := by
  cases p with
  | none => rfl
  | some L c n h =>
    simp only [Pg.erase, Pg.trueHash, hashBytes_eraseNd hc n, hashBytes_erase hc h]

mutual
theorem content_erase : (p : Pg K V D) → p.erase.content = p.content
  | .none => rfl
  | .some L c n h => by
    simp only [Pg.erase, Pg.content, content_eraseNd n, content_erase h]
theorem content_eraseNd : (n : Nd K V D) → n.erase.content = n.content
  | .nil => rfl
  | .cons lt k v tl => by
    simp only [Nd.erase, Nd.content, content_erase lt, content_eraseNd tl]
end

theorem trueHash_congr (hc : HashCfg K V D) {p q : Pg K V D} (h : p.erase = q.erase) :
    p.trueHash hc = q.trueHash hc := by
  rw [← trueHash_erase, h, trueHash_erase]

theorem content_congr {p q : Pg K V D} (h : p.erase = q.erase) : p.content = q.content := by
  rw [← content_erase, h, content_erase]

theorem Nd.erase_eq_nil (n : Nd K V D) : n.erase = .nil ↔ n = .nil := by
  cases n <;> simp [Nd.erase]

theorem Pg.erase_eq_none (p : Pg K V D) : p.erase = .none ↔ p = .none := by
  cases p <;> simp [Pg.erase]

mutual
theorem LvPg_erase (lvl : K → Nat) (b : Nat) (p : Pg K V D) : LvPg lvl b p.erase ↔ LvPg lvl b p :=
  match p with
  | .none => Iff.rfl
  | .some L c n h => by
    simp only [Pg.erase, LvPg, LvPg_eraseNd lvl L n, LvPg_erase lvl L h, ne_eq, Nd.erase_eq_nil]
theorem LvPg_eraseNd (lvl : K → Nat) : (L : Nat) → (n : Nd K V D) → (LvNd lvl L n.erase ↔ LvNd lvl L n)
  | _, .nil => Iff.rfl
  | L, .cons lt k v tl => by
    simp only [Nd.erase, LvNd, LvPg_erase lvl L lt, LvPg_eraseNd lvl L tl]
end

theorem LvRoot_erase (lvl : K → Nat) (p : Pg K V D) : LvRoot lvl p.erase ↔ LvRoot lvl p := by
  cases p with
  | none => exact Iff.rfl
  | some L c n h =>
    simp only [Pg.erase, LvRoot, LvPg_eraseNd lvl L n, LvPg_erase lvl L h, Nd.erase_eq_nil,
      Pg.erase_eq_none]

mutual
theorem cacheOK_erase (hc : HashCfg K V D) : (p : Pg K V D) → CacheOKPg hc p.erase
  | .none => trivial
  | .some _ _ n h => ⟨nofun, cacheOK_eraseNd hc n, cacheOK_erase hc h⟩
theorem cacheOK_eraseNd (hc : HashCfg K V D) : (n : Nd K V D) → CacheOKNd hc n.erase
  | .nil => trivial
  | .cons lt _ _ tl => ⟨cacheOK_erase hc lt, cacheOK_eraseNd hc tl⟩
end

mutual
theorem erase_erase : (p : Pg K V D) → p.erase.erase = p.erase
  | .none => rfl
  | .some L c n h => by simp only [Pg.erase, erase_eraseNd n, erase_erase h]
theorem erase_eraseNd : (n : Nd K V D) → n.erase.erase = n.erase
  | .nil => rfl
  | .cons lt k v tl => by simp only [Nd.erase, erase_erase lt, erase_eraseNd tl]
end

mutual
theorem clean_cacheOK (hc : HashCfg K V D) : (p : Pg K V D) → CleanPg hc p → CacheOKPg hc p
  | .none, _ => trivial
  | .some _ _ n h, hp => ⟨fun _ => hp, clean_cacheOKNd hc n hp.nodes, clean_cacheOK hc h hp.high⟩
theorem clean_cacheOKNd (hc : HashCfg K V D) : (n : Nd K V D) → CleanNd hc n → CacheOKNd hc n
  | .nil, _ => trivial
  | .cons lt _ _ tl, hn => ⟨clean_cacheOK hc lt hn.lt, clean_cacheOKNd hc tl hn.tail⟩
end

theorem clean_cache (hc : HashCfg K V D) (p : Pg K V D) (hp : CleanPg hc p) :
    p.cache? = p.trueHash hc := by
  cases p with
  | none => rfl
  | some L c n h => exact hp.cache_eq

theorem clean_cacheBytes (hc : HashCfg K V D) (p : Pg K V D) (hp : CleanPg hc p) :
    p.cacheBytes hc = p.hashBytes hc := by
  cases p with
  | none => rfl
  | some L c n h => rw [hp.cache_eq]; rfl

/-- `Nd.bytes` (Model/Tree, the order the Rust writes) nests its appends to the left,
`Nd.hashBytes` (Defs) to the right: caches replaced by digests, and reassociation. -/
theorem clean_bytes (hc : HashCfg K V D) (n : Nd K V D) :
    CleanNd hc n → n.bytes hc = n.hashBytes hc := by
  induction n using Nd.induction_tail with
  | nil => exact fun _ => rfl
  | cons lt k v tl ih =>
    intro hn
    simp only [Nd.bytes, Nd.hashBytes, clean_cacheBytes hc lt hn.lt, ih hn.tail, List.append_assoc]

mutual
/-- `maybe_generate_hash`. The second case is its early return on a page carrying a digest: by
`CacheOKPg` the subtree is clean already. -/
theorem genPg_spec (hc : HashCfg K V D) (p : Pg K V D) (h : CacheOKPg hc p) :
    CleanPg hc (genPg hc p) ∧ (genPg hc p).erase = p.erase :=
  match p, h with
  | .none, _ => ⟨trivial, rfl⟩
  | .some L (.some d) n hi, hp => ⟨hp.cached rfl, rfl⟩
  | .some L .none n hi, hp => by
    obtain ⟨hcln, hern⟩ := genPg_specNd hc n hp.nodes
    obtain ⟨hclh, herh⟩ := genPg_spec hc hi hp.high
    simp only [genPg]
    refine ⟨⟨?_, hcln, hclh⟩, ?_⟩
    · -- the stored digest is computed from the children's caches, which are their true digests
      rw [clean_bytes hc _ hcln, clean_cacheBytes hc _ hclh]
    · simp only [Pg.erase, hern, herh]
theorem genPg_specNd (hc : HashCfg K V D) : (n : Nd K V D) → CacheOKNd hc n →
    CleanNd hc (genNd hc n) ∧ (genNd hc n).erase = n.erase
  | .nil, _ => ⟨trivial, rfl⟩
  | .cons lt k v tl, hn => by
    obtain ⟨hcllt, herlt⟩ := genPg_spec hc lt hn.lt
    obtain ⟨hcltl, hertl⟩ := genPg_specNd hc tl hn.tail
    simp only [genNd]
    exact ⟨⟨hcllt, hcltl⟩, by simp only [Nd.erase, herlt, hertl]⟩
end

mutual
theorem clean_eq_of_erase_eq (hc : HashCfg K V D) (p q : Pg K V D)
    (hp : CleanPg hc p) (hq : CleanPg hc q) (h : p.erase = q.erase) : p = q :=
  match p, q, hp, hq, h with
  | .none, .none, _, _, _ => rfl
  | .none, .some .., _, _, h => by simp [Pg.erase] at h
  | .some .., .none, _, _, h => by simp [Pg.erase] at h
  | .some L c n hi, .some L' c' n' hi', hp, hq, he => by
    simp only [Pg.erase, Pg.some.injEq, true_and] at he
    obtain ⟨rfl, hn, hh⟩ := he
    obtain rfl := clean_eq_of_erase_eqNd hc n n' hp.nodes hq.nodes hn
    obtain rfl := clean_eq_of_erase_eq hc hi hi' hp.high hq.high hh
    rw [hp.cache_eq, hq.cache_eq]
theorem clean_eq_of_erase_eqNd (hc : HashCfg K V D) : (n m : Nd K V D) →
    CleanNd hc n → CleanNd hc m → n.erase = m.erase → n = m
  | .nil, .nil, _, _, _ => rfl
  | .nil, .cons .., _, _, h => by simp [Nd.erase] at h
  | .cons .., .nil, _, _, h => by simp [Nd.erase] at h
  | .cons lt k v tl, .cons lt' k' v' tl', hn, hm, he => by
    simp only [Nd.erase, Nd.cons.injEq] at he
    obtain ⟨hl, rfl, rfl, ht⟩ := he
    rw [clean_eq_of_erase_eq hc lt lt' hn.lt hm.lt hl,
      clean_eq_of_erase_eqNd hc tl tl' hn.tail hm.tail ht]
end

/-- Hashing forgets which caches were there. -/
theorem genPg_congr (hc : HashCfg K V D) {p q : Pg K V D} (hp : CacheOKPg hc p)
    (hq : CacheOKPg hc q) (h : p.erase = q.erase) : genPg hc p = genPg hc q := by
  obtain ⟨c₁, e₁⟩ := genPg_spec hc p hp
  obtain ⟨c₂, e₂⟩ := genPg_spec hc q hq
  exact clean_eq_of_erase_eq hc _ _ c₁ c₂ (by rw [e₁, e₂, h])

/-- `CacheOKPg.cached` for a page not written as a constructor term: the cache is read by `cache?`.
`clean_cacheOK` is the converse. -/
theorem CacheOKPg.clean {hc : HashCfg K V D} {p : Pg K V D} (h : CacheOKPg hc p)
    (hs : p.cache?.isSome) : CleanPg hc p := by
  cases p with
  | none => trivial
  | some L c n hi => exact h.cached hs

/-- `root_hash()`. In order: (1) the invariant holds; (2) the reported root hash is the root's true
digest; (3) one is reported; (4) only caches changed; (5) every page carries its true digest. -/
theorem genRootHash_inv [LT K] (lvl : K → Nat) (hc : HashCfg K V D) (t : Tree K V D)
    (hinv : Inv lvl hc t) :
    Inv lvl hc (t.genRootHash hc) ∧
      (t.genRootHash hc).rootHash = t.root.trueHash hc ∧
      (t.genRootHash hc).rootHash.isSome ∧
      (t.genRootHash hc).root.erase = t.root.erase ∧
      CleanPg hc (t.genRootHash hc).root := by
  obtain ⟨hclean, herase⟩ := genPg_spec hc t.root hinv.cacheOK
  have hhash : (genPg hc t.root).cache? = t.root.trueHash hc :=
    (clean_cache hc _ hclean).trans (trueHash_congr hc herase)
  have hsome : (genPg hc t.root).cache?.isSome := by
    obtain ⟨L, c, n, hi, hroot, -⟩ := hinv.shape.cases
    rw [hhash, hroot]
    rfl
  exact ⟨{ shape := (LvRoot_erase lvl _).1 (herase ▸ (LvRoot_erase lvl _).2 hinv.shape)
           sorted := by
             show ((genPg hc t.root).content.map Prod.fst).Pairwise (· < ·)
             rw [content_congr herase]
             exact hinv.sorted
           cacheOK := clean_cacheOK hc _ hclean
           rootHash := fun _ hd => hd },
    hhash,
    hsome,
    herase,
    hclean⟩

theorem Inv.genRootHash_rootHash [LT K] {lvl : K → Nat} {hc : HashCfg K V D} {t : Tree K V D}
    (i : Inv lvl hc t) : (t.genRootHash hc).rootHash = t.root.trueHash hc :=
  (genRootHash_inv lvl hc t i).2.1

theorem Inv.genRootHash_erase [LT K] {lvl : K → Nat} {hc : HashCfg K V D} {t : Tree K V D}
    (i : Inv lvl hc t) : (t.genRootHash hc).root.erase = t.root.erase :=
  (genRootHash_inv lvl hc t i).2.2.2.1

/-- `a`, `b` are the first elements satisfying `P`: a list is cut there in one way only. -/
theorem _root_.List.split_unique {α : Type} (P : α → Prop) {a b : α} {r1 r2 : List α}
    (ha : P a) (hb : P b) (l1 : List α) : ∀ l2 : List α, (∀ x ∈ l1, ¬ P x) → (∀ x ∈ l2, ¬ P x) →
      l1 ++ a :: r1 = l2 ++ b :: r2 → l1 = l2 ∧ a = b ∧ r1 = r2 := by
  induction l1 with
  | nil =>
    rintro (_ | ⟨y, _⟩) _ h2 h
    · exact ⟨rfl, List.cons.inj h⟩
    · exact absurd ((List.cons.inj h).1 ▸ ha) (h2 y List.mem_cons_self)
  | cons x l1 ih =>
    rintro (_ | ⟨y, l2⟩) h1 h2 h
    · exact absurd ((List.cons.inj h).1 ▸ hb) (h1 x List.mem_cons_self)
    · obtain ⟨rfl, h'⟩ := List.cons.inj (h : x :: (l1 ++ a :: r1) = y :: (l2 ++ b :: r2))
      obtain ⟨rfl, e⟩ := ih l2 (fun z hz => h1 z (List.mem_cons_of_mem _ hz))
        (fun z hz => h2 z (List.mem_cons_of_mem _ hz)) h'
      exact ⟨rfl, e⟩

/-- Half of "a stratified page's level is determined by its content": the first node key of `p`
has level `L1` and occurs in `q`, whose keys have level at most `L2`. -/
theorem LvPg_level_le (lvl : K → Nat) {b1 b2 L1 L2 : Nat} {c1 c2 : Option D} {n1 n2 : Nd K V D}
    {h1 h2 : Pg K V D} (hp : LvPg lvl b1 (.some L1 c1 n1 h1)) (hq : LvPg lvl b2 (.some L2 c2 n2 h2))
    (h : (Pg.some L1 c1 n1 h1).content = (Pg.some L2 c2 n2 h2).content) : L1 ≤ L2 := by
  cases n1 with
  | nil => exact absurd rfl hp.ne_nil
  | cons lt k v tl =>
    have hk : lvl k = L1 := hp.nodes.level_eq
    have hmem : (k, v) ∈ (Pg.some L2 c2 n2 h2).content := by
      rw [← h]
      simp [Pg.content, Nd.content]
    -- whatever bound `q` was given, it is stratified below `L2 + 1`
    have hq' : LvPg lvl (L2 + 1) (.some L2 c2 n2 h2) := ⟨Nat.lt_succ_self _, hq.ne_nil, hq.nodes, hq.high⟩
    rw [← hk]
    exact Nat.le_of_lt_succ (LvPg_content_lt lvl (L2 + 1) _ hq' (k, v) hmem)

/-- A tail of keys below `L` does not begin with the content of nodes of level `L`. -/
theorem LvNd.content_ne {lvl : K → Nat} {L : Nat} {lt : Pg K V D} {k : K} {v : V} {tl : Nd K V D}
    {r r' : List (K × V)} (h : LvNd lvl L (.cons lt k v tl)) (hr : ∀ kv ∈ r, lvl kv.1 < L) :
    r ≠ (Nd.cons lt k v tl).content ++ r' := fun he =>
  Nat.ne_of_lt (hr (k, v) (by rw [he]; simp [Nd.content])) h.level_eq

mutual
/-- Two level-stratified subtrees with the same in-order content have the same shape.
(Ordering is not needed: stratification and non-emptiness alone force the shape.) -/
theorem shape_unique (lvl : K → Nat) (b1 b2 : Nat) (p q : Pg K V D)
    (hp : LvPg lvl b1 p) (hq : LvPg lvl b2 q) (h : p.content = q.content) : p.erase = q.erase :=
  match p, q, hp, hq, h with
  | .none, .none, _, _, _ => rfl
  | .none, .some L c n hi, _, hq, he =>
    absurd he.symm (LvPg_some_content_ne_nil hq)
  | .some L c n hi, .none, hp, _, he => absurd he (LvPg_some_content_ne_nil hp)
  | .some L1 c1 n1 h1, .some L2 c2 n2 h2, hp, hq, he => by
    obtain rfl : L1 = L2 :=
      Nat.le_antisymm (LvPg_level_le lvl hp hq he) (LvPg_level_le lvl hq hp he.symm)
    obtain ⟨en, eh⟩ := shape_uniqueNd lvl n1 n2 L1 h1.content h2.content hp.nodes hq.nodes
      (LvPg_content_lt lvl L1 h1 hp.high) (LvPg_content_lt lvl L1 h2 hq.high) he
    simp only [Pg.erase, en, shape_unique lvl L1 L1 h1 h2 hp.high hq.high eh]
/-- The crux of L3. `r1`, `r2` are the tails after the nodes in a page's content (the high pages'
contents), so that the hypothesis stays one equation between appends; their keys lie below level
`L`. Keys of level `L` separate: the first cuts both sides at the same place
(`List.split_unique`), giving the first children's contents, the first nodes, and the statement for
the remaining nodes. -/
theorem shape_uniqueNd (lvl : K → Nat) : (n1 n2 : Nd K V D) → (L : Nat) → (r1 r2 : List (K × V)) →
    LvNd lvl L n1 → LvNd lvl L n2 → (∀ kv ∈ r1, lvl kv.1 < L) → (∀ kv ∈ r2, lvl kv.1 < L) →
    n1.content ++ r1 = n2.content ++ r2 → n1.erase = n2.erase ∧ r1 = r2
  | .nil, .nil, _, _, _, _, _, _, _, he => ⟨rfl, he⟩
  | .nil, .cons .., _, _, _, _, h2, hr1, _, he => absurd he (h2.content_ne hr1)
  | .cons .., .nil, _, _, _, h1, _, _, hr2, he => absurd he.symm (h1.content_ne hr2)
  | .cons lt1 k1 v1 tl1, .cons lt2 k2 v2 tl2, L, r1, r2, h1, h2, hr1, hr2, he => by
    simp only [Nd.content, List.append_assoc, List.cons_append] at he
    obtain ⟨e1, e2, e3⟩ := List.split_unique (fun kv : K × V => lvl kv.1 = L)
      h1.level_eq h2.level_eq lt1.content lt2.content
      (fun x hx => Nat.ne_of_lt (LvPg_content_lt lvl L lt1 h1.lt x hx))
      (fun x hx => Nat.ne_of_lt (LvPg_content_lt lvl L lt2 h2.lt x hx)) he
    obtain ⟨etl, er⟩ := shape_uniqueNd lvl tl1 tl2 L r1 r2 h1.tail h2.tail hr1 hr2 e3
    obtain ⟨rfl, rfl⟩ := Prod.mk.inj e2
    simp only [Nd.erase, shape_unique lvl L L lt1 lt2 h1.lt h2.lt e1, etl, er, and_self]
end

theorem root_unique (lvl : K → Nat) (p q : Pg K V D)
    (hp : LvRoot lvl p) (hq : LvRoot lvl q) (h : p.content = q.content) : p.erase = q.erase := by
  obtain ⟨L1, c1, n1, hi1, rfl, hcase1⟩ := hp.cases
  obtain ⟨L2, c2, n2, hi2, rfl, hcase2⟩ := hq.cases
  rcases hcase1 with ⟨rfl, rfl, rfl⟩ | hlv1
  · rcases hcase2 with ⟨rfl, rfl, rfl⟩ | hlv2
    · rfl
    · exact absurd h.symm (LvPg_some_content_ne_nil hlv2)
  · rcases hcase2 with ⟨rfl, rfl, rfl⟩ | hlv2
    · exact absurd h (LvPg_some_content_ne_nil hlv1)
    · exact shape_unique lvl _ _ _ _ hlv1 hlv2 h

/-- C01 for states: same pages, same cached digest on every page, same root hash. -/
theorem Inv.genRootHash_congr [LT K] {lvl : K → Nat} {hc : HashCfg K V D} {t₁ t₂ : Tree K V D}
    (i₁ : Inv lvl hc t₁) (i₂ : Inv lvl hc t₂) (h : t₁.root.content = t₂.root.content) :
    t₁.genRootHash hc = t₂.genRootHash hc := by
  unfold Tree.genRootHash
  rw [genPg_congr hc i₁.cacheOK i₂.cacheOK (root_unique lvl _ _ i₁.shape i₂.shape h)]

theorem Inv.rootHash_true [LT K] {lvl : K → Nat} {hc : HashCfg K V D} {t : Tree K V D}
    (i : Inv lvl hc t) {d : D} (h : t.rootHash = some d) : t.root.trueHash hc = some d := by
  have hcache := i.rootHash d h
  have hclean : CleanPg hc t.root := i.cacheOK.clean (by rw [hcache]; rfl)
  rw [← clean_cache hc _ hclean, hcache]

/-- The abstract pre-image of a page digest: per node (child digest if any, key, value digest),
then the high page's digest if any. -/
abbrev PageTok (K V D : Type) := List (Option D × K × V) × Option D

def Nd.toks (hc : HashCfg K V D) : Nd K V D → List (Option D × K × V)
  | .nil => []
  | .cons lt k v tl => (lt.trueHash hc, k, v) :: tl.toks hc

def optBytes (hc : HashCfg K V D) : Option D → List UInt8
  | none => []
  | some d => hc.db d

def encodeToks (hc : HashCfg K V D) : List (Option D × K × V) → List UInt8
  | [] => []
  | (c, k, v) :: r => optBytes hc c ++ (hc.kb k ++ (hc.vb v ++ encodeToks hc r))

/-- The byte stream fed to the page hasher for a pre-image. -/
def encodeTok (hc : HashCfg K V D) (t : PageTok K V D) : List UInt8 :=
  encodeToks hc t.1 ++ optBytes hc t.2

mutual
/-- The pre-images of all pages of the subtree, this page's own first. -/
def Pg.allToks (hc : HashCfg K V D) : Pg K V D → List (PageTok K V D)
  | .none => []
  | .some _ _ n h => (n.toks hc, h.trueHash hc) :: (n.allToks hc ++ h.allToks hc)
def Nd.allToks (hc : HashCfg K V D) : Nd K V D → List (PageTok K V D)
  | .nil => []
  | .cons lt _ _ tl => lt.allToks hc ++ tl.allToks hc
end

/-- No two *different* page pre-images among `S` receive the same digest. This is exactly
"up to collisions of the page digest": it also counts as a collision two different pre-images
whose byte encodings coincide (the encoding has no length prefixes). -/
def CollisionFree (hc : HashCfg K V D) (S : List (PageTok K V D)) : Prop :=
  ∀ a ∈ S, ∀ b ∈ S, hc.h (encodeTok hc a) = hc.h (encodeTok hc b) → a = b

theorem CollisionFree.mono {hc : HashCfg K V D} {S T : List (PageTok K V D)}
    (hST : ∀ x ∈ S, x ∈ T) (hT : CollisionFree hc T) : CollisionFree hc S :=
  fun a ha b hb e => hT a (hST a ha) b (hST b hb) e

theorem CollisionFree.swap {hc : HashCfg K V D} {S T : List (PageTok K V D)}
    (h : CollisionFree hc (S ++ T)) : CollisionFree hc (T ++ S) :=
  h.mono fun _ hx => List.mem_append.2 (List.mem_append.1 hx).symm

theorem CollisionFree.of_subsets {hc : HashCfg K V D} {A A' B B' : List (PageTok K V D)}
    (hA : ∀ x ∈ A', x ∈ A) (hB : ∀ x ∈ B', x ∈ B) (h : CollisionFree hc (A ++ B)) :
    CollisionFree hc (A' ++ B') :=
  h.mono fun x hx => (List.mem_append.1 hx).elim (fun m => List.mem_append_left _ (hA x m))
    fun m => List.mem_append_right _ (hB x m)

theorem hashBytes_eq_optBytes (hc : HashCfg K V D) (p : Pg K V D) :
    p.hashBytes hc = optBytes hc (p.trueHash hc) := by
  cases p <;> rfl

theorem hashBytes_eq_encodeToks (hc : HashCfg K V D) (n : Nd K V D) :
    n.hashBytes hc = encodeToks hc (n.toks hc) := by
  induction n using Nd.induction_tail with
  | nil => rfl
  | cons lt k v tl ih =>
    simp only [Nd.hashBytes, Nd.toks, encodeToks, hashBytes_eq_optBytes hc lt, ih]

theorem trueHash_eq_encode (hc : HashCfg K V D) (L : Nat) (c : Option D) (n : Nd K V D) (h : Pg K V D) :
    (Pg.some L c n h).trueHash hc = some (hc.h (encodeTok hc (n.toks hc, h.trueHash hc))) := by
  simp only [Pg.trueHash, encodeTok, hashBytes_eq_encodeToks hc n, hashBytes_eq_optBytes hc h]

mutual
/-- Equal digests force equal content, for pages whose pre-images are collision free. -/
theorem merkle_inj (hc : HashCfg K V D) (p q : Pg K V D)
    (hcf : CollisionFree hc (p.allToks hc ++ q.allToks hc))
    (h : p.trueHash hc = q.trueHash hc) : p.content = q.content :=
  match p, q, hcf, h with
  | .none, .none, _, _ => rfl
  | .none, .some .., _, h => by simp [Pg.trueHash] at h
  | .some .., .none, _, h => by simp [Pg.trueHash] at h
  | .some L1 c1 n1 h1, .some L2 c2 n2 h2, hcf, h => by
    rw [trueHash_eq_encode, trueHash_eq_encode, Option.some.injEq] at h
    -- the heads of the two `allToks` are the pages' own pre-images
    have e := Prod.mk.inj (hcf _ (List.mem_append_left _ List.mem_cons_self) _
      (List.mem_append_right _ List.mem_cons_self) h)
    have en := merkle_injNd hc n1 n2 (CollisionFree.of_subsets
      (fun _ m => List.mem_cons_of_mem _ (List.mem_append_left _ m))
      (fun _ m => List.mem_cons_of_mem _ (List.mem_append_left _ m)) hcf) e.1
    have eh := merkle_inj hc h1 h2 (CollisionFree.of_subsets
      (fun _ m => List.mem_cons_of_mem _ (List.mem_append_right _ m))
      (fun _ m => List.mem_cons_of_mem _ (List.mem_append_right _ m)) hcf) e.2
    simp only [Pg.content, en, eh]
theorem merkle_injNd (hc : HashCfg K V D) : (n m : Nd K V D) →
    CollisionFree hc (n.allToks hc ++ m.allToks hc) →
    n.toks hc = m.toks hc → n.content = m.content
  | .nil, .nil, _, _ => rfl
  | .nil, .cons .., _, h => by simp [Nd.toks] at h
  | .cons .., .nil, _, h => by simp [Nd.toks] at h
  | .cons lt1 k1 v1 tl1, .cons lt2 k2 v2 tl2, hcf, h => by
    simp only [Nd.toks, List.cons.injEq, Prod.mk.injEq] at h
    obtain ⟨⟨el, ek, ev⟩, et⟩ := h
    have e1 := merkle_inj hc lt1 lt2
      (hcf.of_subsets (fun _ => List.mem_append_left _) (fun _ => List.mem_append_left _)) el
    have e2 := merkle_injNd hc tl1 tl2
      (hcf.of_subsets (fun _ => List.mem_append_right _) (fun _ => List.mem_append_right _)) et
    simp only [Nd.content, e1, e2, ek, ev]
end

end Mst
