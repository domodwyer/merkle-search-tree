/-
Histories over {upsert(k,v), request root hash}: every reachable state satisfies `Inv`, no
operation panics, and the content is the last-write-wins map of the history (as a sorted list).
-/
import MstVerif.Proofs.Upsert
import MstVerif.Proofs.Hash

namespace Mst
variable {K V D : Type}

inductive Op (K V : Type) where
  | ups (k : K) (v : V)
  | hash
  deriving Repr

variable [LinearOrder K]

/-- One step on the model (the level of a key is `lvl k`: the hasher is a function of the key). -/
def Tree.step (lvl : K → Nat) (hc : HashCfg K V D) (t : Tree K V D) : Op K V → Except String (Tree K V D)
  | .ups k v => t.upsert k (lvl k) v
  | .hash => .ok (t.genRootHash hc)

def runFrom (lvl : K → Nat) (hc : HashCfg K V D) : Tree K V D → List (Op K V) → Except String (Tree K V D)
  | t, [] => .ok t
  | t, op :: ops =>
    match t.step lvl hc op with
    | .error e => .error e
    | .ok t' => runFrom lvl hc t' ops

def run (lvl : K → Nat) (hc : HashCfg K V D) (ops : List (Op K V)) : Except String (Tree K V D) :=
  runFrom lvl hc Tree.empty ops

/-- The abstract map after a history, as a key-ascending association list. -/
def applyOps : List (K × V) → List (Op K V) → List (K × V)
  | c, [] => c
  | c, .ups k v :: ops => applyOps (insertKV k v c) ops
  | c, .hash :: ops => applyOps c ops

def finalContent (ops : List (Op K V)) : List (K × V) := applyOps [] ops

/-- Last-write-wins: the value of the most recent upsert of `k`, defined independently of `insertKV`. -/
def lastWriteFrom (k : K) : Option V → List (Op K V) → Option V
  | acc, [] => acc
  | acc, .ups k' v :: ops => lastWriteFrom k (if k' = k then some v else acc) ops
  | acc, .hash :: ops => lastWriteFrom k acc ops

def lastWrite (ops : List (Op K V)) (k : K) : Option V := lastWriteFrom k none ops

theorem step_inv {lvl : K → Nat} (hlvl : ∀ k, lvl k < 255) {hc : HashCfg K V D} {t : Tree K V D}
    (hinv : Inv lvl hc t) (op : Op K V) :
    ∃ t', t.step lvl hc op = .ok t' ∧ Inv lvl hc t' ∧ t'.root.content = applyOps t.root.content [op] := by
  cases op with
  | ups k v =>
    obtain ⟨t', hstep, hinv', hcont, -⟩ := Tree.upsert_inv lvl hlvl hc t hinv k v
    -- `applyOps c [.ups k v]` is `insertKV k v c` by unfolding
    exact ⟨t', hstep, hinv', hcont⟩
  | hash =>
    exact ⟨_, rfl, (genRootHash_inv lvl hc t hinv).1, content_congr hinv.genRootHash_erase⟩

theorem runFrom_inv {lvl : K → Nat} (hlvl : ∀ k, lvl k < 255) {hc : HashCfg K V D}
    (ops : List (Op K V)) {t : Tree K V D} (hinv : Inv lvl hc t) :
    ∃ t', runFrom lvl hc t ops = .ok t' ∧ Inv lvl hc t' ∧ t'.root.content = applyOps t.root.content ops := by
  induction ops generalizing t with
  | nil => exact ⟨t, rfl, hinv, rfl⟩
  | cons op ops ih =>
    obtain ⟨t1, h1, h2, h3⟩ := step_inv hlvl hinv op
    obtain ⟨t2, g1, g2, g3⟩ := ih h2
    refine ⟨t2, ?_, g2, ?_⟩
    · simp [runFrom, h1, g1]
    · rw [g3, h3]
      cases op with
      | ups k v => rfl
      | hash => rfl

theorem run_inv (lvl : K → Nat) (hlvl : ∀ k, lvl k < 255) (hc : HashCfg K V D) (ops : List (Op K V)) :
    ∃ t, run lvl hc ops = .ok t ∧ Inv lvl hc t ∧ t.root.content = finalContent ops :=
  -- `run` starts `runFrom` at the empty tree, whose content `[]` is where `finalContent` starts
  runFrom_inv hlvl ops (Tree.empty_inv lvl hc)

/-- Intermediate states are reachable states. -/
theorem runFrom_append (lvl : K → Nat) (hc : HashCfg K V D) (t : Tree K V D) (o1 o2 : List (Op K V)) :
    runFrom lvl hc t (o1 ++ o2) =
      (match runFrom lvl hc t o1 with
       | .error e => .error e
       | .ok t' => runFrom lvl hc t' o2) := by
  induction o1 generalizing t with
  | nil => rfl
  | cons op o1 ih =>
    simp only [List.cons_append, runFrom]
    cases h : t.step lvl hc op with
    | error e => rfl
    | ok t' => exact ih t'

theorem run_snoc {lvl : K → Nat} {hc : HashCfg K V D} {ops : List (Op K V)} {t : Tree K V D}
    (h : run lvl hc ops = .ok t) (op : Op K V) : run lvl hc (ops ++ [op]) = t.step lvl hc op := by
  unfold run at h ⊢
  rw [runFrom_append, h]
  simp only [runFrom]
  cases t.step lvl hc op with
  | error e => rfl
  | ok t' => rfl

theorem lastWriteFrom_append (k : K) (acc : Option V) (o₁ o₂ : List (Op K V)) :
    lastWriteFrom k acc (o₁ ++ o₂) = lastWriteFrom k (lastWriteFrom k acc o₁) o₂ := by
  induction o₁ generalizing acc with
  | nil => rfl
  | cons op o ih =>
    cases op with
    | ups k' v => exact ih _
    | hash => exact ih _

theorem lastWrite_snoc_ups (ops : List (Op K V)) (k' : K) (v : V) (k : K) :
    lastWrite (ops ++ [.ups k' v]) k = if k' = k then some v else lastWrite ops k :=
  lastWriteFrom_append k none ops [.ups k' v]

theorem applyOps_sorted (c : List (K × V)) (ops : List (Op K V)) (h : KSorted c) :
    KSorted (applyOps c ops) := by
  induction ops generalizing c with
  | nil => exact h
  | cons op ops ih =>
    cases op with
    | ups k v => exact ih _ (insertKV_sorted k v c h)
    | hash => exact ih _ h

theorem finalContent_sorted (ops : List (Op K V)) : KSorted (finalContent ops) :=
  applyOps_sorted [] ops ksorted_nil

/-- No sortedness involved. -/
theorem lookupKV_applyOps (k : K) (c : List (K × V)) (ops : List (Op K V)) :
    lookupKV k (applyOps c ops) = lastWriteFrom k (lookupKV k c) ops := by
  induction ops generalizing c with
  | nil => rfl
  | cons op ops ih =>
    cases op with
    | hash => exact ih c
    | ups k' v' => simp only [applyOps, lastWriteFrom, ih, lookupKV_insertKV]

theorem lookupKV_finalContent (ops : List (Op K V)) (k : K) :
    lookupKV k (finalContent ops) = lastWrite ops k :=
  lookupKV_applyOps k [] ops

theorem mem_finalContent (ops : List (Op K V)) (k : K) (v : V) :
    (k, v) ∈ finalContent ops ↔ lastWrite ops k = some v := by
  rw [← lookupKV_eq_some _ (finalContent_sorted ops), lookupKV_finalContent]

theorem finalContent_eq_iff (ops₁ ops₂ : List (Op K V)) :
    finalContent ops₁ = finalContent ops₂ ↔ ∀ k, lastWrite ops₁ k = lastWrite ops₂ k :=
  ⟨fun h k => by rw [← lookupKV_finalContent, h, lookupKV_finalContent],
   fun h => store_ext _ _ (finalContent_sorted ops₁) (finalContent_sorted ops₂) fun k => by
     rw [lookupKV_finalContent, lookupKV_finalContent, h]⟩

/-- The list of operations is `freshOps c` (Props/C02) written out. -/
theorem applyOps_map_ups (c acc : List (K × V)) (h : KSorted (acc ++ c)) :
    applyOps acc (c.map fun kv => Op.ups kv.1 kv.2) = acc ++ c := by
  induction c generalizing acc with
  | nil => exact (List.append_nil acc).symm
  | cons kv c ih =>
    have hlt : ∀ x ∈ acc, x.1 < kv.1 := fun x hx =>
      (List.pairwise_append.1 (List.pairwise_map.1 h)).2.2 x hx kv List.mem_cons_self
    have hins := insertKV_append_of_lt kv.1 kv.2 acc [] (List.forall_mem_map.2 hlt)
    rw [List.append_nil] at hins
    rw [List.map_cons, applyOps, hins]
    exact (ih (acc ++ [kv]) (by rwa [List.append_assoc])).trans (List.append_assoc ..)

end Mst
