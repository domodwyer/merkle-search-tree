/-
L1a: `splitPg` (`split_off_lt`) under the tree invariants: one equation per branch of the Rust
(`splitPg_step_*`), then one mutual induction. The clauses "one side empty ⇒ the other is the input
page" let a page keep its cached digest; `splitPg_spec` restates `splitPg_spec'` without them.
-/
import MstVerif.Proofs.TreeBasics

namespace Mst
variable {K V D : Type} [LinearOrder K]

theorem assertT_ok {site : String} {b : Bool} (h : b = true) : assertT site b = .ok () := by
  simp [assertT, h]

theorem assertKeyLt_last (site : String) {n : Nd K V D} {key : K} (hn : n ≠ .nil)
    (h : ∀ k ∈ n.keys, k < key) : assertKeyLt site n.lastKey? key = .ok () := by
  obtain ⟨k, h1, h2⟩ := Nd.lastKey?_mem n hn
  simp [assertKeyLt, h1, h k h2]

theorem assertKeyGt_last (site : String) {n : Nd K V D} {key : K} (hn : n ≠ .nil)
    (h : ∀ k ∈ n.keys, key < k) : assertKeyGt site n.lastKey? key = .ok () := by
  obtain ⟨k, h1, h2⟩ := Nd.lastKey?_mem n hn
  simp [assertKeyGt, h1, h k h2]

theorem assertKeyGt_first (site : String) {n : Nd K V D} {key : K} (hn : n ≠ .nil)
    (h : ∀ k ∈ n.keys, key < k) : assertKeyGt site n.firstKey? key = .ok () := by
  obtain ⟨k, h1, h2⟩ := Nd.firstKey?_mem n hn
  simp [assertKeyGt, h1, h k h2]

theorem splitPg_step_allLt {key : K} (L : Nat) (c : Option D) {n : Nd K V D} {h a b : Pg K V D}
    (hn : n ≠ .nil) (h1 : splitNd key n = .ok .allLt)
    (h2 : assertKeyLt "page.rs:397" n.lastKey? key = .ok ())
    (h3 : splitPg key h = .ok (a, b)) :
    splitPg key (.some L c n h) = .ok (.some L (if b.isSome then Option.none else c) n a, b) := by
  cases n with
  | nil => exact absurd rfl hn
  | cons lt k v tl =>
    -- by `eq_def`: `simp [splitPg]` tries every equation of the large mutual definition
    rw [splitPg.eq_def]
    simp only [h1, h2, h3]

theorem splitPg_step_atHead {key : K} (L : Nat) (c : Option D) {n g : Nd K V D} (h : Pg K V D)
    {a : Pg K V D}
    (hn : n ≠ .nil) (h1 : splitNd key n = .ok (.atHead a g))
    (h2 : assertKeyGt "page.rs:377" n.firstKey? key = .ok ()) :
    splitPg key (.some L c n h) =
      .ok (a, .some L (if a.isSome then Option.none else c) g h) := by
  cases n with
  | nil => exact absurd rfl hn
  | cons lt k v tl =>
    rw [splitPg.eq_def]
    simp only [h1, h2]

/-- The eight assertions are page.rs:450, 455–457, 474, 478–480. -/
theorem splitPg_step_mid {lvl : K → Nat} {key : K} {L : Nat} (c : Option D) {n l g : Nd K V D}
    {h a : Pg K V D} (h1 : splitNd key n = .ok (.mid l a g))
    (hl : l ≠ .nil) (hg : g ≠ .nil) (hlvh : LvPg lvl L h) (hlva : LvPg lvl L a)
    (hlk : ∀ k ∈ l.keys, k < key) (hak : ∀ k ∈ a.keys, k < key)
    (hgk : ∀ k ∈ g.keys, key < k) (hhk : ∀ k ∈ h.keys, key < k) :
    splitPg key (.some L c n h) = .ok (.some L Option.none l a, .some L Option.none g h) := by
  cases n with
  | nil => cases h1
  | cons lt k v tl =>
    rw [splitPg.eq_def]
    simp only [h1, assertKeyGt_last _ hg hgk, assertKeyLt_last _ hl hlk]
    cases h with
    | none =>
      cases a with
      | none => rfl
      | some La ca na ha =>
        simp only [assertT_ok (decide_eq_true hlva.lt_bound), assertT_ok (Nd.not_isNil hlva.ne_nil),
          assertKeyLt_last _ hlva.ne_nil (Pg.forall_keys_some.1 hak).1]
    | some Lh ch nh hh =>
      simp only [assertT_ok (decide_eq_true hlvh.lt_bound), assertT_ok (Nd.not_isNil hlvh.ne_nil),
        assertKeyGt_first _ hlvh.ne_nil (Pg.forall_keys_some.1 hhk).1]
      cases a with
      | none => rfl
      | some La ca na ha =>
        simp only [assertT_ok (decide_eq_true hlva.lt_bound), assertT_ok (Nd.not_isNil hlva.ne_nil),
          assertKeyLt_last _ hlva.ne_nil (Pg.forall_keys_some.1 hak).1]

/-- In `atHead`, `n.firstKey? = g.firstKey?` serves only the assertion at page.rs:377, which looks
at the first key of the ORIGINAL nodes; `a = .none → g = n` lets the page keep its cache. Order in
both cases: content, non-empty parts, key bounds, levels, caches, each left to right. -/
def SplitNdSpec (lvl : K → Nat) (hc : HashCfg K V D) (key : K) (L : Nat) (n : Nd K V D) :
    SplitRes K V D → Prop
  | .allLt => ∀ k ∈ n.keys, k < key
  | .atHead a g =>
      n.content = a.content ++ g.content ∧ g ≠ .nil ∧ n.firstKey? = g.firstKey? ∧
      (∀ k ∈ a.keys, k < key) ∧ (∀ k ∈ g.keys, key < k) ∧
      LvPg lvl L a ∧ LvNd lvl L g ∧ CacheOKPg hc a ∧ CacheOKNd hc g ∧ (a = .none → g = n)
  | .mid l a g =>
      n.content = l.content ++ (a.content ++ g.content) ∧ l ≠ .nil ∧ g ≠ .nil ∧
      (∀ k ∈ l.keys, k < key) ∧ (∀ k ∈ a.keys, k < key) ∧ (∀ k ∈ g.keys, key < k) ∧
      LvNd lvl L l ∧ LvPg lvl L a ∧ LvNd lvl L g ∧
      CacheOKNd hc l ∧ CacheOKPg hc a ∧ CacheOKNd hc g

theorem high_gt_of_node_gt {n g : Nd K V D} {h : Pg K V D} {key : K}
    (hnh : ∀ a ∈ n.keys, ∀ b ∈ h.keys, a < b) (hg : g ≠ .nil) (hgk : ∀ k ∈ g.keys, key < k)
    (hsub : ∀ kv ∈ g.content, kv ∈ n.content) : ∀ k ∈ h.keys, key < k := by
  obtain ⟨k0, -, hk0⟩ := Nd.firstKey?_mem g hg
  obtain ⟨kv, hkv, rfl⟩ := List.mem_map.1 hk0
  exact fun k hk => lt_trans (hgk _ hk0) (hnh _ (List.mem_map_of_mem (hsub kv hkv)) k hk)

structure SplitPgSpec (lvl : K → Nat) (hc : HashCfg K V D) (key : K) (bound : Nat)
    (p a b : Pg K V D) : Prop where
  content : p.content = a.content ++ b.content
  lt : ∀ k ∈ a.keys, k < key
  gt : ∀ k ∈ b.keys, key < k
  lvA : LvPg lvl bound a
  lvB : LvPg lvl bound b
  coA : CacheOKPg hc a
  coB : CacheOKPg hc b
  /-- `noneA`, `noneB`: nothing split off on one side, so the other is the input page, cache
  included -/
  noneA : a = .none → b = p
  noneB : b = .none → a = p

mutual
theorem splitPg_spec' (lvl : K → Nat) (hc : HashCfg K V D) (key : K) :
    ∀ (p : Pg K V D) (bound : Nat), LvPg lvl bound p → p.Sorted → key ∉ p.keys →
      CacheOKPg hc p →
      ∃ a b, splitPg key p = .ok (a, b) ∧ SplitPgSpec lvl hc key bound p a b
  | .none, bound, _, _, _, _ =>
    ⟨.none, .none, rfl,
      { content := rfl
        lt := nofun
        gt := nofun
        lvA := trivial
        lvB := trivial
        coA := trivial
        coB := trivial
        noneA := id
        noneB := id }⟩
  | .some L c n h, bound, ⟨hLb, hnn, hlvn, hlvh⟩, hs, hne, hco => by
    obtain ⟨hsn, hsh, hnh⟩ := Pg.sorted_some.1 hs
    rw [Pg.keys_some, List.mem_append, not_or] at hne
    obtain ⟨r, hr, hspec⟩ := splitNd_spec' lvl hc key n L hlvn hsn hne.1 hco.nodes
    cases r with
    | allLt =>
      obtain ⟨a, b, hab, S⟩ := splitPg_spec' lvl hc key h L hlvh hsh hne.2 hco.high
      exact ⟨_, _,
        splitPg_step_allLt L c hnn hr (assertKeyLt_last _ hnn hspec) hab,
        { content := by simp only [Pg.content, S.content, List.append_assoc]
          lt := Pg.forall_keys_some.2 ⟨hspec, S.lt⟩
          gt := S.gt
          lvA := ⟨hLb, hnn, hlvn, S.lvA⟩
          lvB := LvPg_mono (Nat.le_of_lt hLb) S.lvB
          coA := .ite b hco hco.nodes S.coA fun e => ⟨rfl, S.noneB e⟩
          coB := S.coB
          noneA := nofun
          noneB := fun e => by
            -- `rfl` evaluates `if Pg.none.isSome`: the cache `c` is kept
            subst e
            rw [S.noneB rfl]
            rfl }⟩
    | atHead a g =>
      obtain ⟨hcont, hgn, hfirst, hlt, hgt, hlva, hlvg, hcoa, hcog, hnone⟩ := hspec
      have hhigh := high_gt_of_node_gt hnh hgn hgt fun kv hkv =>
        hcont ▸ List.mem_append_right _ hkv
      exact ⟨_, _,
        splitPg_step_atHead L c h hnn hr (hfirst ▸ assertKeyGt_first _ hgn hgt),
        { content := by simp only [Pg.content, hcont, List.append_assoc]
          lt := hlt
          gt := Pg.forall_keys_some.2 ⟨hgt, hhigh⟩
          lvA := LvPg_mono (Nat.le_of_lt hLb) hlva
          lvB := ⟨hLb, hgn, hlvg, hlvh⟩
          coA := hcoa
          coB := .ite a hco hcog hco.high fun e => ⟨hnone e, rfl⟩
          noneA := fun e => by
            subst e
            rw [hnone rfl]
            rfl
          noneB := nofun }⟩
    | mid l a g =>
      obtain ⟨hcont, hln, hgn, hltl, hlta, hgt, hlvl, hlva, hlvg, hcol, hcoa, hcog⟩ := hspec
      have hhigh := high_gt_of_node_gt hnh hgn hgt fun kv hkv =>
        hcont ▸ List.mem_append_right _ (List.mem_append_right _ hkv)
      exact ⟨_, _,
        splitPg_step_mid c hr hln hgn hlvh hlva hltl hlta hgt hhigh,
        { content := by simp only [Pg.content, hcont, List.append_assoc]
          lt := Pg.forall_keys_some.2 ⟨hltl, hlta⟩
          gt := Pg.forall_keys_some.2 ⟨hgt, hhigh⟩
          lvA := ⟨hLb, hln, hlvl, hlva⟩
          lvB := ⟨hLb, hgn, hlvg, hlvh⟩
          coA := ⟨nofun, hcol, hcoa⟩
          coB := ⟨nofun, hcog, hco.high⟩
          noneA := nofun
          noneB := nofun }⟩
theorem splitNd_spec' (lvl : K → Nat) (hc : HashCfg K V D) (key : K) :
    ∀ (n : Nd K V D) (L : Nat), LvNd lvl L n → n.Sorted → key ∉ n.keys → CacheOKNd hc n →
      ∃ r, splitNd key n = .ok r ∧ SplitNdSpec lvl hc key L n r
  | .nil, L, _, _, _, _ => ⟨.allLt, rfl, nofun⟩
  | .cons lt k v tl, L, ⟨hlvlt, hlvk, hlvtl⟩, hs, hne, ⟨hcolt, hcotl⟩ => by
    obtain ⟨hslt, hstl, hltk, hktl⟩ := Nd.sorted_cons.1 hs
    rw [Nd.keys_cons, List.mem_append, List.mem_cons, not_or, not_or] at hne
    obtain ⟨hnelt, hnek, hnetl⟩ := hne
    by_cases hle : key ≤ k
    · have hkey : key < k := lt_of_le_of_ne hle hnek
      obtain ⟨a, b, hab, S⟩ := splitPg_spec' lvl hc key lt L hlvlt hslt hnelt hcolt
      exact ⟨.atHead a (.cons b k v tl), by rw [splitNd.eq_2, if_pos hle, hab],
        by simp only [Nd.content, S.content, List.append_assoc],
        nofun,
        rfl,
        S.lt,
        Nd.forall_keys_cons.2 ⟨S.gt, hkey, fun k' hk' => lt_trans hkey (hktl k' hk')⟩,
        S.lvA,
        ⟨S.lvB, hlvk, hlvtl⟩,
        S.coA,
        ⟨S.coB, hcotl⟩,
        fun e => by rw [S.noneA e]⟩
    · have hkey : k < key := not_le.mp hle
      have hltkey : ∀ k' ∈ lt.keys, k' < key := fun k' hk' => lt_trans (hltk k' hk') hkey
      obtain ⟨r, hr, hspec⟩ := splitNd_spec' lvl hc key tl L hlvtl hstl hnetl hcotl
      cases r with
      | allLt =>
        exact ⟨.allLt, by rw [splitNd.eq_2, if_neg hle, hr],
          Nd.forall_keys_cons.2 ⟨hltkey, hkey, hspec⟩⟩
      | atHead a g =>
        obtain ⟨hcont, hgn, -, hlt, hgt, hlva, hlvg, hcoa, hcog, -⟩ := hspec
        exact ⟨.mid (.cons lt k v .nil) a g, by rw [splitNd.eq_2, if_neg hle, hr],
          by simp only [Nd.content, hcont, List.append_assoc, List.cons_append, List.nil_append],
          nofun,
          hgn,
          Nd.forall_keys_cons.2 ⟨hltkey, hkey, nofun⟩,
          hlt,
          hgt,
          ⟨hlvlt, hlvk, trivial⟩,
          hlva,
          hlvg,
          ⟨hcolt, trivial⟩,
          hcoa,
          hcog⟩
      | mid l a g =>
        obtain ⟨hcont, hln, hgn, hltl, hlta, hgt, hlvl, hlva, hlvg, hcol, hcoa, hcog⟩ := hspec
        exact ⟨.mid (.cons lt k v l) a g, by rw [splitNd.eq_2, if_neg hle, hr],
          by simp only [Nd.content, hcont, List.append_assoc, List.cons_append],
          nofun,
          hgn,
          Nd.forall_keys_cons.2 ⟨hltkey, hkey, hltl⟩,
          hlta,
          hgt,
          ⟨hlvlt, hlvk, hlvl⟩,
          hlva,
          hlvg,
          ⟨hcolt, hcol⟩,
          hcoa,
          hcog⟩
end

/-- `split_off_lt` on a well-shaped, sorted, cache-consistent subtree not containing `key`:
never panics, partitions the in-order content at `key`, and both parts keep every invariant. -/
theorem splitPg_spec (lvl : K → Nat) (hc : HashCfg K V D) (key : K) (bound : Nat)
    (p : Pg K V D) (hlv : LvPg lvl bound p) (hs : p.Sorted) (hne : key ∉ p.keys)
    (hco : CacheOKPg hc p) :
    ∃ a b, splitPg key p = .ok (a, b) ∧
      p.content = a.content ++ b.content ∧
      (∀ k ∈ a.keys, k < key) ∧ (∀ k ∈ b.keys, key < k) ∧
      LvPg lvl bound a ∧ LvPg lvl bound b ∧ CacheOKPg hc a ∧ CacheOKPg hc b := by
  obtain ⟨a, b, hab, S⟩ := splitPg_spec' lvl hc key p bound hlv hs hne hco
  exact ⟨a, b, hab, S.content, S.lt, S.gt, S.lvA, S.lvB, S.coA, S.coB⟩

theorem splitNd_all_lt (key : K) (n : Nd K V D) : (∀ k ∈ n.keys, k < key) →
    splitNd key n = .ok .allLt := by
  induction n using Nd.induction_tail with
  | nil => exact fun _ => rfl
  | cons lt k v tl ih =>
    intro h
    obtain ⟨-, hk, htl⟩ := Nd.forall_keys_cons.1 h
    simp [splitNd, not_le.mpr hk, ih htl]

/-- When every key is already below `key` the split returns the page itself, untouched
(this is why the "second split" in `upsert_node` / `insert_intermediate_page` is a no-op). -/
theorem splitPg_all_lt (lvl : K → Nat) (key : K) (bound : Nat)
    (p : Pg K V D) (hlv : LvPg lvl bound p) (hlt : ∀ k ∈ p.keys, k < key) :
    splitPg key p = .ok (p, .none) :=
  match p, bound, hlv, hlt with
  | .none, _, _, _ => rfl
  | .some L c n h, _, hlv, hlt => by
    obtain ⟨hn, hh⟩ := Pg.forall_keys_some.1 hlt
    -- as at `noneB` above, the cache `if Pg.none.isSome then none else c` evaluates to `c`
    exact splitPg_step_allLt L c hlv.ne_nil (splitNd_all_lt key n hn)
      (assertKeyLt_last _ hlv.ne_nil hn) (splitPg_all_lt lvl key L h hlv.high hh)

end Mst
