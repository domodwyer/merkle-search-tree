/-
C13 (stack part, as far as a functional model carries it): the depth of the instrumented walk is at
most the longest chain of nested ranges in the peer list, hence its length; a strictly nested chain
of n ranges drives it to depth n: no fixed stack suffices for untrusted input.
-/
import MstVerif.Proofs.DiffWalk
import Mathlib.Order.Nat
import Mathlib.Data.List.Chain

-- every statement with `D` takes the section's `[DecidableEq D]`; those on `NB`, `ChainBnd` idly
set_option linter.unusedSectionVars false

namespace Mst
variable {K D : Type} [LinearOrder K] [DecidableEq D]

theorem diffDepth_iff {loc : List (PR K D)} {root : PR K D} {rest : List (PR K D)} {d : Nat} :
    diffDepth loc (root :: rest) = .ok d ↔
    ∃ peer' loc' b, Walk root none (root :: rest) loc Builder.empty peer' loc' b d := by
  unfold diffDepth
  dsimp only
  constructor
  · intro h
    split at h
    · cases h
    · rename_i peer' loc' b' d' hD
      cases h
      exact ⟨peer', loc', b', (walk_sound _).1 hD⟩
  · rintro ⟨peer', loc', b, hw⟩
    -- one unit of fuel more than needed, as in `diffWalk_iff`
    rw [hw.complete _ (by omega)]

/-! From here on a *chain* is a chain of nested ranges (`IsNestChain`), not the ascending interval
lists `DRChain` / `WChain` of DiffList; `chain n h` is the example input made of one. -/

def IsNestChain (c : List (PR K D)) : Prop :=
  List.IsChain (fun a b => a.supersetOf b = true) c

/-- Nesting bound: every nested chain occurring in `l` (as a subsequence) has length at most `m`. -/
def NB (l : List (PR K D)) (m : Nat) : Prop :=
  ∀ c : List (PR K D), c.Sublist l → IsNestChain c → c.length ≤ m

/-- `NB` for the chains that start inside `root`: it bounds the walk below `root` and gets smaller
by one from a frame to the next. -/
def ChainBnd (root : PR K D) (l : List (PR K D)) (m : Nat) : Prop :=
  ∀ c : List (PR K D), c.Sublist l → IsNestChain c →
    (∀ x ∈ c.head?, root.supersetOf x = true) → c.length ≤ m

theorem NB.chainBnd {l : List (PR K D)} {m : Nat} (h : NB l m) (root : PR K D) :
    ChainBnd root l m :=
  fun c hc hch _ => h c hc hch

theorem NB.length (l : List (PR K D)) : NB l l.length := fun _ hc _ => hc.length_le

theorem NB.mono {l : List (PR K D)} {m m' : Nat} (h : NB l m) (hm : m ≤ m') : NB l m' :=
  fun c hc hch => le_trans (h c hc hch) hm

theorem NB.nil {m : Nat} : NB ([] : List (PR K D)) m := (NB.length []).mono (Nat.zero_le m)

theorem NB.cons {l : List (PR K D)} {m : Nat} (x : PR K D) (h : NB l m) :
    NB (x :: l) (m + 1) := by
  intro c hc hch
  rcases List.sublist_cons_iff.1 hc with hc' | ⟨r, rfl, hr⟩
  · exact le_trans (h c hc' hch) (Nat.le_succ _)
  · have hch' : IsNestChain r := List.IsChain.tail hch
    simp only [List.length_cons]
    exact Nat.succ_le_succ (h r hr hch')

/-- Two blocks such that no element of the first is a superset of an element of the second:
a nested chain lies within one block. -/
theorem NB.append {l₁ l₂ : List (PR K D)} {m : Nat} (h1 : NB l₁ m) (h2 : NB l₂ m)
    (hx : ∀ a ∈ l₁, ∀ b ∈ l₂, a.supersetOf b = false) : NB (l₁ ++ l₂) m := by
  intro c hc hch
  obtain ⟨c₁, c₂, rfl, hc1, hc2⟩ := List.sublist_append_iff.1 hc
  have hch' := List.isChain_append.1 hch
  by_cases e2 : c₂ = []
  · subst e2
    rw [List.append_nil]
    exact h1 c₁ hc1 hch'.1
  by_cases e1 : c₁ = []
  · subst e1
    rw [List.nil_append]
    exact h2 c₂ hc2 hch'.2.1
  exfalso
  have hrel := hch'.2.2 _ (List.getLast?_eq_some_getLast e1) _ (List.head?_eq_some_head e2)
  have hxm := hc1.subset (List.getLast_mem e1)
  have hym := hc2.subset (List.head_mem e2)
  rw [hx _ hxm _ hym] at hrel
  cases hrel

theorem ChainBnd.suffix {root : PR K D} {l l' : List (PR K D)} {m : Nat}
    (h : ChainBnd root l m) (hs : l' <:+ l) : ChainBnd root l' m :=
  fun c hc hch hh => h c (hc.trans hs.sublist) hch hh

theorem ChainBnd.pos {root p : PR K D} {l : List (PR K D)} {m : Nat}
    (h : ChainBnd root (p :: l) m) (hsup : root.supersetOf p = true) : 1 ≤ m :=
  h [p] ((List.nil_sublist l).cons_cons p) (List.IsChain.singleton p)
    fun x hx => by cases hx; exact hsup

theorem ChainBnd.child {root p : PR K D} {l : List (PR K D)} {m : Nat}
    (h : ChainBnd root (p :: l) m) (hsup : root.supersetOf p = true) :
    ChainBnd p l (m - 1) := by
  intro c hc hch hh
  have hch' : IsNestChain (p :: c) := List.IsChain.cons hch hh
  have := h (p :: c) (hc.cons_cons p) hch' fun x hx => by cases hx; exact hsup
  simp only [List.length_cons] at this
  omega

/-- A frame is entered only for a page inside the current root, and what it sees is a suffix of what
its parent saw. -/
theorem Walk.depth_le {root : PR K D} {lastP peer loc b peer' loc' b' d}
    (h : Walk root lastP peer loc b peer' loc' b' d) : ∀ m, ChainBnd root peer m → d ≤ m := by
  induction h with
  | stop => intro m _; exact Nat.zero_le _
  | leaf => intro m _; exact Nat.zero_le _
  | descend hp hl hsl hv hm hsub hdrain hrest hd ih1 ih2 =>
    intro m hbnd
    have hpos := hbnd.pos hp
    have h1 := ih1 (m - 1) ((hbnd.child hp).suffix (mark_suffix hm))
    obtain ⟨-, hpa, -⟩ := descend_cursors hsl hm hsub.suffix hdrain
    have h2 := ih2 m (hbnd.suffix (hpa.trans (List.suffix_cons _ _)))
    rw [hd]
    exact max_le (by omega) h2

theorem diffDepth_le_nesting {loc peer : List (PR K D)} {n : Nat} (hn : NB peer n)
    {d : Nat} (hd : diffDepth loc peer = .ok d) : d ≤ n := by
  cases peer with
  | nil => cases hd; exact Nat.zero_le _
  | cons root rest =>
    obtain ⟨_, _, _, hw⟩ := diffDepth_iff.1 hd
    exact hw.depth_le n (hn.chainBnd root)

/-- No chain is longer than the list. -/
theorem diffDepth_total (loc peer : List (PR K D)) (hp : PRValid peer) :
    ∃ d, diffDepth loc peer = .ok d ∧ d ≤ peer.length := by
  cases peer with
  | nil => exact ⟨0, rfl, le_refl _⟩
  | cons root rest =>
    obtain ⟨_, _, _, d, hw⟩ := Walk.total root none (root :: rest) loc Builder.empty hp
    exact ⟨d, diffDepth_iff.2 ⟨_, _, _, hw⟩, hw.depth_le _ ((NB.length _).chainBnd root)⟩

/-- A strictly nested chain over the naturals: ranges `[i, 2n - i]` for `i < n`, all with digest `h`. -/
def chain (n : Nat) (h : D) : List (PR Nat D) :=
  (List.range n).map fun i => { start := i, end_ := 2 * n - i, hash := h }

/-- The `k` links of `chain n h` from the `i`-th on. -/
def chainFrom (n : Nat) (h : D) (i k : Nat) : List (PR Nat D) :=
  (List.range' i k).map fun j => { start := j, end_ := 2 * n - j, hash := h }

theorem chain_eq_chainFrom (n : Nat) (h : D) : chain n h = chainFrom n h 0 n := by
  simp [chain, chainFrom, List.range_eq_range']

theorem chainFrom_zero (n : Nat) (h : D) (i : Nat) : chainFrom n h i 0 = [] := by
  simp [chainFrom]

theorem chainFrom_succ (n : Nat) (h : D) (i k : Nat) :
    chainFrom n h i (k + 1) =
      ({ start := i, end_ := 2 * n - i, hash := h } : PR Nat D) :: chainFrom n h (i + 1) k := by
  simp [chainFrom, List.range'_succ]

/-- The next local link starts at `i + 1`, so it cannot contain `p`. -/
theorem shrinkLocal_chainFrom (p l0 : PR Nat D) (n : Nat) (h : D) (i k : Nat) (hp : p.start ≤ i) :
    shrinkLocal p l0 (chainFrom n h (i + 1) k) = (l0, chainFrom n h (i + 1) k) := by
  cases k with
  | zero => rw [chainFrom_zero]; rfl
  | succ k =>
    rw [chainFrom_succ]
    have : ¬ (i + 1 ≤ p.start) := by omega
    simp [shrinkLocal, PR.supersetOf, this]

/-- `h₁`: the local digest, `h₂`: the peer's, as in `diffDepth (chain n h₁) (chain n h₂)`. Each link
is one `descend` whose sub-walk is the next link. -/
theorem chain_walk (n : Nat) {h₁ h₂ : D} (hne : h₁ ≠ h₂) (i k : Nat) (root : PR Nat D)
    (lastP : Option (PR Nat D)) (b : Builder Nat) (hik : i + k ≤ n) (hrs : root.start ≤ i)
    (hre : 2 * n - i ≤ root.end_) :
    ∃ b', Walk root lastP (chainFrom n h₂ i k) (chainFrom n h₁ i k) b [] [] b' k := by
  induction k generalizing i root lastP b with
  | zero =>
    rw [chainFrom_zero, chainFrom_zero]
    exact ⟨b, .stop rfl⟩
  | succ k ih =>
    rw [chainFrom_succ, chainFrom_succ]
    have hv : i ≤ 2 * n - i := by omega
    obtain ⟨b1, hb1⟩ := ih (i + 1) { start := i, end_ := 2 * n - i, hash := h₂ } none
      { b with bad := b.bad ++ [(i, 2 * n - i)] } (by omega) (Nat.le_succ i)
      (Nat.sub_le_sub_left (Nat.le_succ i) _)
    -- the sub-walk is the next link and consumes both lists: drain and rest find no peer page
    exact ⟨b1, .descend (p := { start := i, end_ := 2 * n - i, hash := h₂ })
      (l0 := { start := i, end_ := 2 * n - i, hash := h₁ })
      ((supersetOf_iff _ _).2 ⟨hrs, hre⟩) ((supersetOf_iff _ _).2 ⟨le_refl _, le_refl _⟩)
      (shrinkLocal_chainFrom _ _ n h₁ i k (le_refl _)) hv (mark_of_ne hne)
      (hsub := hb1) (hdrain := rfl) (hrest := .stop rfl) (hd := (Nat.max_zero _).symm)⟩

end Mst

#print axioms Mst.diffDepth_le_nesting
#print axioms Mst.diffDepth_total
