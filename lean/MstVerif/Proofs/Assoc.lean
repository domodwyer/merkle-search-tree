/-
Key-ascending association lists (tree content, abstract map of a history, replica store). On a
sorted list `(k, v)` is a member exactly when `lookupKV k` gives `v`, so sorted lists with the same
lookups, or the same members, are equal.
-/
import MstVerif.Proofs.Defs
import MstVerif.Model.Sync
import Mathlib.Order.Defs.LinearOrder
import Mathlib.Order.Basic

namespace Mst
variable {K V : Type} [LinearOrder K]

def KSorted (c : List (K × V)) : Prop := (c.map Prod.fst).Pairwise (· < ·)

theorem ksorted_nil : KSorted ([] : List (K × V)) := List.Pairwise.nil

theorem Pg.sorted_iff_ksorted {D : Type} (p : Pg K V D) : p.Sorted ↔ KSorted p.content := Iff.rfl

theorem Nd.sorted_iff_ksorted {D : Type} (n : Nd K V D) : n.Sorted ↔ KSorted n.content := Iff.rfl

theorem ksorted_cons {a : K × V} {l : List (K × V)} :
    KSorted (a :: l) ↔ (∀ kv ∈ l, a.1 < kv.1) ∧ KSorted l := by
  rw [KSorted, KSorted, List.map_cons, List.pairwise_cons, List.forall_mem_map]

/-- Proofs about `insertKV k v l` go by `fun_induction insertKV k v l`, the induction along its own
four cases: `l` empty; `k` below the first key `k'`; `k = k'`; neither, the recursive case (`ih`). -/
theorem mem_of_mem_insertKV (k : K) (v : V) (l : List (K × V)) (x : K × V)
    (h : x ∈ insertKV k v l) : x = (k, v) ∨ x ∈ l := by
  fun_induction insertKV k v l with
  | case1 => exact Or.inl (List.mem_singleton.1 h)
  | case2 k' v' rest hlt => exact List.mem_cons.1 h
  | case3 v' rest hlt => exact (List.mem_cons.1 h).imp_right (List.mem_cons_of_mem _)
  | case4 k' v' rest hlt hne ih =>
    rcases List.mem_cons.1 h with rfl | h
    · exact Or.inr List.mem_cons_self
    · exact (ih h).imp_right (List.mem_cons_of_mem _)

theorem insertKV_sorted (k : K) (v : V) (l : List (K × V)) (h : KSorted l) :
    KSorted (insertKV k v l) := by
  fun_induction insertKV k v l with
  | case1 => exact ksorted_cons.2 ⟨nofun, ksorted_nil⟩
  | case2 k' v' rest hlt =>
    exact ksorted_cons.2
      ⟨List.forall_mem_cons.2 ⟨hlt, fun x hx => lt_trans hlt ((ksorted_cons.1 h).1 x hx)⟩, h⟩
  | case3 v' rest hlt => exact ksorted_cons.2 (ksorted_cons.1 h)
  | case4 k' v' rest hlt hne ih =>
    obtain ⟨h1, h2⟩ := ksorted_cons.1 h
    refine ksorted_cons.2 ⟨fun x hx => ?_, ih h2⟩
    rcases mem_of_mem_insertKV k v rest x hx with rfl | hx
    · exact lt_of_le_of_ne (not_lt.1 hlt) (Ne.symm hne)
    · exact h1 x hx

theorem insertKV_cons_self (k : K) (v v' : V) (l : List (K × V)) :
    insertKV k v ((k, v') :: l) = (k, v) :: l := by
  rw [insertKV, if_neg (lt_irrefl k), if_pos rfl]

theorem insertKV_append_of_lt (k : K) (v : V) (l1 l2 : List (K × V))
    (h : ∀ x ∈ l1.map Prod.fst, x < k) : insertKV k v (l1 ++ l2) = l1 ++ insertKV k v l2 := by
  induction l1 with
  | nil => rfl
  | cons hd rest ih =>
    obtain ⟨hk, hrest⟩ := List.forall_mem_cons.1 h
    simp only [List.cons_append, insertKV, if_neg (lt_asymm hk), if_neg (ne_of_gt hk), ih hrest]

theorem insertKV_append_of_gt (k : K) (v : V) (l1 l2 : List (K × V))
    (h : ∀ x ∈ l2.map Prod.fst, k < x) : insertKV k v (l1 ++ l2) = insertKV k v l1 ++ l2 := by
  -- `fun_induction` has evaluated `insertKV k v l1` on the right; the left side unfolds to the same
  -- two tests on the first key of `l1`, which `hlt`, `hne` decide
  fun_induction insertKV k v l1 with
  | case1 =>
    cases l2 with
    | nil => rfl
    | cons hd rest => exact if_pos (h hd.1 List.mem_cons_self)
  | case2 k' v' rest hlt => exact if_pos hlt
  | case3 v' rest hlt => exact insertKV_cons_self k v v' (rest ++ l2)
  | case4 k' v' rest hlt hne ih => exact (if_neg hlt).trans ((if_neg hne).trans (congrArg _ ih))

theorem insertKV_mid (k : K) (v : V) (l1 l2 : List (K × V))
    (h1 : ∀ x ∈ l1.map Prod.fst, x < k) (h2 : ∀ x ∈ l2.map Prod.fst, k < x) :
    insertKV k v (l1 ++ l2) = l1 ++ (k, v) :: l2 := by
  rw [insertKV_append_of_lt k v l1 l2 h1]
  -- with nothing before `l2`, `insertKV_append_of_gt` reads `insertKV k v l2 = (k, v) :: l2`
  exact congrArg (l1 ++ ·) (insertKV_append_of_gt k v [] l2 h2)

/-- `storeInsert` (Model/Sync) is `insertKV` written a second time, for the replica's store. -/
theorem storeInsert_eq (k : K) (v : V) (s : List (K × V)) :
    storeInsert k v s = insertKV k v s := by
  induction s with
  | nil => rfl
  | cons hd rest ih => simp only [storeInsert, insertKV, ih]

/-- `fun_induction lookupKV k s`: `s` empty; the first key is `k`; it is not (`ih`). -/
theorem lookupKV_eq_none (s : List (K × V)) (k : K) :
    lookupKV k s = none ↔ ∀ v, (k, v) ∉ s := by
  fun_induction lookupKV k s with
  | case1 => exact ⟨fun _ _ => List.not_mem_nil, fun _ => rfl⟩
  | case2 v0 rest => exact ⟨nofun, fun h => absurd List.mem_cons_self (h v0)⟩
  | case3 k0 v0 rest hk ih =>
    rw [ih]
    exact ⟨fun h v hm => (List.mem_cons.1 hm).elim (fun e => hk (Prod.mk.inj e).1.symm) (h v),
      fun h v hm => h v (List.mem_cons_of_mem _ hm)⟩

theorem lookupKV_ne_none_iff (s : List (K × V)) (k : K) :
    lookupKV k s ≠ none ↔ k ∈ s.map Prod.fst := by
  rw [Ne, lookupKV_eq_none, List.mem_map]
  constructor
  · intro h
    by_contra hk
    exact h fun v hv => hk ⟨(k, v), hv, rfl⟩
  · rintro ⟨⟨k', v⟩, hm, rfl⟩ h
    exact h v hm

theorem lookupKV_none_of_lt (k : K) (s : List (K × V)) (h : ∀ kv ∈ s, k < kv.1) :
    lookupKV k s = none :=
  (lookupKV_eq_none s k).2 fun _ hv => lt_irrefl _ (h _ hv)

theorem lookupKV_eq_some (s : List (K × V)) (hs : KSorted s) (k : K) (v : V) :
    lookupKV k s = some v ↔ (k, v) ∈ s := by
  fun_induction lookupKV k s with
  | case1 => exact ⟨nofun, nofun⟩
  | case2 v0 rest =>
    -- the first key is `k`; by `hs` it does not occur again
    rw [Option.some.injEq, List.mem_cons, Prod.mk.injEq]
    exact ⟨fun h => Or.inl ⟨rfl, h.symm⟩, fun h => h.elim (·.2.symm) fun h =>
      absurd ((ksorted_cons.1 hs).1 _ h) (lt_irrefl _)⟩
  | case3 k0 v0 rest hk ih =>
    rw [ih (ksorted_cons.1 hs).2, List.mem_cons, Prod.mk.injEq]
    exact ⟨Or.inr, fun h => h.elim (fun h => absurd h.1.symm hk) id⟩

theorem lookupKV_insertKV (k' k : K) (v : V) (s : List (K × V)) :
    lookupKV k' (insertKV k v s) = if k = k' then some v else lookupKV k' s := by
  fun_induction insertKV k v s with
  | case1 => rfl
  | case2 k0 v0 rest h1 => rfl
  | case3 v0 rest h1 =>
    by_cases h3 : k = k'
    · simp only [lookupKV, if_pos h3]
    · simp only [lookupKV, if_neg h3]
  | case4 k0 v0 rest h1 h2 ih =>
    by_cases h3 : k = k'
    · simp only [lookupKV, ih, if_pos h3, if_neg (fun e : k0 = k' => h2 (h3.trans e.symm))]
    · simp only [lookupKV, ih, if_neg h3]

theorem lookupKV_filter (p : K → Bool) (s : List (K × V)) (k : K) :
    lookupKV k (s.filter fun kv => p kv.1) = if p k = true then lookupKV k s else none := by
  induction s with
  | nil => exact (ite_self none).symm
  | cons hd rest ih =>
    obtain ⟨k0, v0⟩ := hd
    rw [List.filter_cons]
    by_cases hk : k0 = k
    · subst hk
      by_cases hp : p k0 = true
      · simp only [if_pos hp, lookupKV, if_true]
      · simp only [if_neg hp, ih]
    · -- `(k0, v0)` is not looked up, whether the filter keeps it or not
      rw [lookupKV, if_neg hk, ← ih]
      by_cases hp : p k0 = true
      · rw [if_pos hp, lookupKV, if_neg hk]
      · rw [if_neg hp]

/-- Neither list repeats a key, so they are permutations of each other; a sorted list has one
arrangement. -/
theorem ksorted_ext (c1 c2 : List (K × V)) (h1 : KSorted c1) (h2 : KSorted c2)
    (h : ∀ kv, kv ∈ c1 ↔ kv ∈ c2) : c1 = c2 := by
  have nodup : ∀ {c : List (K × V)}, KSorted c → c.Nodup := fun hc =>
    (List.pairwise_map.1 hc).imp fun hab e => by subst e; exact lt_irrefl _ hab
  exact List.Perm.eq_of_pairwise (le := fun a b => a.1 < b.1)
    (fun _ _ _ _ hab hba => absurd hba (lt_asymm hab))
    (List.pairwise_map.1 h1) (List.pairwise_map.1 h2)
    ((List.perm_ext_iff_of_nodup (nodup h1) (nodup h2)).2 h)

theorem store_ext (s t : List (K × V)) (hs : KSorted s) (ht : KSorted t)
    (h : ∀ k, lookupKV k s = lookupKV k t) : s = t :=
  ksorted_ext s t hs ht fun kv => by
    rw [← lookupKV_eq_some s hs, ← lookupKV_eq_some t ht, h]

theorem exists_lookup_ne (s t : List (K × V)) (hs : KSorted s) (ht : KSorted t) (h : s ≠ t) :
    ∃ k, lookupKV k s ≠ lookupKV k t :=
  not_forall.1 fun hall => h (store_ext s t hs ht hall)

theorem exists_head_last {α : Type} {l : List α} (h : l ≠ []) :
    ∃ a z, l.head? = some a ∧ l.getLast? = some z :=
  ⟨l.head h, l.getLast h, List.head?_eq_some_head h, List.getLast?_eq_some_getLast h⟩

theorem ksorted_head_le {s : List (K × V)} (hs : KSorted s) {a : K × V} (ha : s.head? = some a) :
    ∀ x ∈ s, a.1 ≤ x.1 := by
  cases s with
  | nil => nofun
  | cons b t =>
    cases ha
    intro x hx
    rcases List.mem_cons.1 hx with rfl | hx
    · exact le_refl _
    · exact le_of_lt ((ksorted_cons.1 hs).1 x hx)

theorem ksorted_le_last {s : List (K × V)} (hs : KSorted s) {z : K × V}
    (hz : s.getLast? = some z) : ∀ x ∈ s, x.1 ≤ z.1 := by
  intro x hx
  have hne := List.ne_nil_of_mem hx
  obtain rfl : s.getLast hne = z :=
    Option.some.inj ((List.getLast?_eq_some_getLast hne).symm.trans hz)
  rw [← List.dropLast_concat_getLast hne, KSorted, List.map_append, List.pairwise_append] at hs
  rw [← List.dropLast_concat_getLast hne] at hx
  rcases List.mem_append.1 hx with hx | hx
  · exact le_of_lt (hs.2.2 x.1 (List.mem_map_of_mem hx) _ List.mem_cons_self)
  · exact le_of_eq (congrArg Prod.fst (List.mem_singleton.1 hx))

theorem ksorted_ends (s : List (K × V)) (hs : KSorted s) (hne : s ≠ []) :
    ∃ a0 a1, s.head? = some a0 ∧ s.getLast? = some a1 ∧ a0.1 ∈ s.map Prod.fst ∧
      a1.1 ∈ s.map Prod.fst ∧ ∀ x ∈ s.map Prod.fst, a0.1 ≤ x ∧ x ≤ a1.1 := by
  have h0 := List.head?_eq_some_head hne
  have h1 := List.getLast?_eq_some_getLast hne
  refine ⟨s.head hne, s.getLast hne, h0, h1,
    List.mem_map_of_mem (List.head_mem hne),
    List.mem_map_of_mem (List.getLast_mem hne),
    fun x hx => ?_⟩
  obtain ⟨kv, hkv, rfl⟩ := List.mem_map.1 hx
  exact ⟨ksorted_head_le hs h0 kv hkv, ksorted_le_last hs h1 kv hkv⟩

theorem ksorted_unique (c : List (K × V)) (h : KSorted c) (k : K) (v w : V)
    (h1 : (k, v) ∈ c) (h2 : (k, w) ∈ c) : v = w :=
  Option.some.inj (((lookupKV_eq_some c h k v).2 h1).symm.trans ((lookupKV_eq_some c h k w).2 h2))

/-- On sorted lists; `mem_of_mem_insertKV` is the direction that holds on any list. -/
theorem mem_insertKV (k : K) (v : V) (c : List (K × V)) (h : KSorted c) (k' : K) (v' : V) :
    (k', v') ∈ insertKV k v c ↔ (k' = k ∧ v' = v) ∨ (k' ≠ k ∧ (k', v') ∈ c) := by
  rw [← lookupKV_eq_some _ (insertKV_sorted k v c h), lookupKV_insertKV, ← lookupKV_eq_some c h]
  split_ifs with e
  · -- `k = k'`: the left disjunct, read right to left; the right one is false
    simp [e, eq_comm]
  · -- `k ≠ k'`: the left disjunct is false
    simp [Ne.symm e]

end Mst

#print axioms Mst.storeInsert_eq
#print axioms Mst.lookupKV_eq_some
#print axioms Mst.lookupKV_eq_none
