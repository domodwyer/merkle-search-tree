/-
L9b: two replicas — one pull read keywise (`pull_lookup`), progress (`pull_progress`), one two-way
round (`round_spec`), values in an ARBITRARY join-semilattice. The induction over rounds is C05
itself (`Props/C05.lean`). The last part is for merges that return one of their two inputs.
-/
import MstVerif.Proofs.Sync
import MstVerif.Proofs.SyncJoin
import MstVerif.Proofs.OptJoin

set_option linter.unusedSectionVars false

namespace Mst
variable {K V D : Type} [LinearOrder K] [SemilatticeSup V] [DecidableEq V] [DecidableEq D]

/-- The keys on which two stores disagree (missing on one side counts). -/
def disagreeKeys (a b : List (K × V)) : List K :=
  ((a.map Prod.fst ++ b.map Prod.fst).eraseDups).filter fun k => decide (lookupKV k a ≠ lookupKV k b)

def disagree (a b : List (K × V)) : Nat := (disagreeKeys a b).length

theorem nodup_eraseDups {α : Type} [BEq α] [LawfulBEq α] : ∀ (l : List α), l.eraseDups.Nodup
  | [] => by rw [List.eraseDups_nil]; exact List.nodup_nil
  | a :: as => by
    rw [List.eraseDups_cons, List.nodup_cons]
    refine ⟨?_, nodup_eraseDups _⟩
    -- `a` was filtered out of the tail before its duplicates were erased
    simp [List.mem_eraseDups]
termination_by l => l.length
decreasing_by
  simp only [List.length_cons]
  exact Nat.lt_succ_of_le (List.length_filter_le _ _)

theorem mem_disagreeKeys (a b : List (K × V)) (k : K) :
    k ∈ disagreeKeys a b ↔ lookupKV k a ≠ lookupKV k b := by
  unfold disagreeKeys
  rw [List.mem_filter, List.mem_eraseDups, List.mem_append, decide_eq_true_iff]
  constructor
  · exact fun h => h.2
  · intro h
    refine ⟨?_, h⟩
    by_cases ha : lookupKV k a = none
    · right
      rw [← lookupKV_ne_none_iff]
      intro hb
      exact h (ha.trans hb.symm)
    · left
      exact (lookupKV_ne_none_iff a k).1 ha

theorem nodup_disagreeKeys (a b : List (K × V)) : (disagreeKeys a b).Nodup := by
  unfold disagreeKeys
  exact (nodup_eraseDups _).filter _

theorem disagree_eq_zero (a b : List (K × V)) (ha : KSorted a) (hb : KSorted b) :
    disagree a b = 0 ↔ a = b := by
  unfold disagree
  rw [List.length_eq_zero_iff]
  constructor
  · intro h
    apply store_ext a b ha hb
    intro k
    by_contra hk
    have hmem := (mem_disagreeKeys a b k).2 hk
    rw [h] at hmem
    exact List.not_mem_nil hmem
  · rintro rfl
    apply List.eq_nil_iff_forall_not_mem.2
    intro k hk
    exact (mem_disagreeKeys a a k).1 hk rfl

theorem disagree_le_of (a b a' b' : List (K × V))
    (hsub : ∀ k, lookupKV k a' ≠ lookupKV k b' → lookupKV k a ≠ lookupKV k b) :
    disagree a' b' ≤ disagree a b := by
  unfold disagree
  apply List.Nodup.length_le_of_subset (nodup_disagreeKeys a' b')
  intro k hk
  exact (mem_disagreeKeys a b k).2 (hsub k ((mem_disagreeKeys a' b' k).1 hk))

theorem disagree_lt_of (a b a' b' : List (K × V)) (k0 : K)
    (hsub : ∀ k, lookupKV k a' ≠ lookupKV k b' → lookupKV k a ≠ lookupKV k b)
    (h0 : lookupKV k0 a ≠ lookupKV k0 b) (h0' : lookupKV k0 a' = lookupKV k0 b') :
    disagree a' b' < disagree a b := by
  unfold disagree
  have hnd : (k0 :: disagreeKeys a' b').Nodup := by
    rw [List.nodup_cons]
    refine ⟨?_, nodup_disagreeKeys a' b'⟩
    intro hk
    exact (mem_disagreeKeys a' b' k0).1 hk h0'
  have := List.Nodup.length_le_of_subset hnd (l₂ := disagreeKeys a b) (by
    intro k hk
    rcases List.mem_cons.1 hk with rfl | hk
    · exact (mem_disagreeKeys a b _).2 h0
    · exact (mem_disagreeKeys a b k).2 (hsub k ((mem_disagreeKeys a' b' k).1 hk)))
  rw [List.length_cons] at this
  exact Nat.lt_of_succ_le this

/-- The receiver's new value at a fetched key: old value `x`, sender's value `y`. -/
def pullLk (m : Merge) (x y : Option V) : Option V :=
  match y with
  | none => x
  | some v => some (m.apply x v)

theorem pullLk_of_eq (m : Merge) (x y : Option V) (h : x = y) : pullLk m x y = x := by
  subst h
  cases x with
  | none => rfl
  | some v =>
    cases m with
    | joinMax => exact congrArg some (sup_idem v)
    | peerWins => rfl

theorem pullLk_laws (m : Merge) : MergeLaws (pullLk (V := V) m) where
  idem x := pullLk_of_eq m x x rfl
  none_left y := by cases y <;> cases m <;> rfl
  none_right x := rfl
  absorb x y hy := by
    cases y with
    | none => exact absurd rfl hy
    | some v =>
      cases m with
      | peerWins => cases x <;> rfl
      | joinMax =>
        cases x with
        | none => exact congrArg some (sup_idem v)
        | some o =>
          simp only [pullLk, Merge.apply]
          rw [sup_comm v, sup_right_idem]
  fixed x y hx hy h := by
    cases x with
    | none => exact absurd rfl hx
    | some p =>
      cases y with
      | none => exact absurd rfl hy
      | some q =>
        cases m with
        | peerWins => rfl
        | joinMax =>
          simp only [pullLk, Merge.apply, Option.some.injEq] at h ⊢
          rw [sup_comm]; exact h
  some_right x y hy := by
    cases y with
    | none => exact absurd rfl hy
    | some v => exact Option.some_ne_none _
  some_left x y hx := by
    cases y with
    | none => exact hx
    | some v => exact Option.some_ne_none _

theorem pullLk_joinMax (x y : Option V) : pullLk .joinMax x y = optMax x y := by
  cases x <;> cases y <;> rfl

theorem lookup_absorb_fetch (m : Merge) (s t : List (K × V)) (ht : KSorted t)
    (R : List (DR K)) (k : K) :
    lookupKV k (absorbStore m s (fetch t R)) =
      if inRanges R k = true then pullLk m (lookupKV k s) (lookupKV k t) else lookupKV k s := by
  rw [lookup_absorbStore m s (fetch t R) (fetch_sorted t ht R) k, lookup_fetch t R k]
  by_cases hr : inRanges R k = true
  · simp only [hr, if_true]
    cases lookupKV k t <;> rfl
  · simp only [hr]
    rfl

theorem bounded_lookup {s : List (K × V)} (hs : KSorted s) : Bounded (fun k => lookupKV k s) := by
  by_cases hne : s = []
  · exact Or.inl fun k => by rw [hne]; rfl
  · obtain ⟨a0, a1, -, -, m0, m1, l⟩ := ksorted_ends s hs hne
    exact Or.inr ⟨a0.1, a1.1, (lookupKV_ne_none_iff s _).2 m0, (lookupKV_ne_none_iff s _).2 m1,
      fun k hk => l k ((lookupKV_ne_none_iff s k).1 hk)⟩

/-- One pull `a ← b` read keywise: `pull_spec` in terms of lookup functions. -/
structure KeywisePull (lvl : K → Nat) (hc : HashCfg K V D) (m : Merge) (a b : Replica K V D)
    (R : List (DR K)) (a' b' : Replica K V D) : Prop where
  run : pull lvl hc m a b = .ok (a', b')
  inv_recv : RInv lvl hc a'
  inv_send : RInv lvl hc b'
  send_store : b'.store = b.store
  lk : ∀ k, lookupKV k a'.store =
    if inRanges R k = true then pullLk m (lookupKV k a.store) (lookupKV k b.store)
    else lookupKV k a.store
  /-- identical stores exchange nothing (C08) -/
  idle : a.store = b.store → a'.store = a.store
  /-- which keys are fetched (C07, C04) is known up to digest collisions only; `PullF.lk` is `lk` -/
  pullF : NoCollisions hc → PullF (pullLk m) (fun k => lookupKV k a.store)
    (fun k => lookupKV k b.store) (fun k => lookupKV k a'.store) (fun k => inRanges R k)

theorem pull_lookup {lvl : K → Nat} (hlvl : ∀ k, lvl k < 255) {hc : HashCfg K V D} (m : Merge)
    {a b : Replica K V D} (ha : RInv lvl hc a) (hb : RInv lvl hc b) :
    ∃ R a' b', KeywisePull lvl hc m a b R a' b' := by
  obtain ⟨R, a', b', hpull, hinvA, hinvB, hstoreB, hstoreA, hnil, -, hcomp, hhead⟩ :=
    pull_spec lvl hlvl hc m a b ha hb
  have hlk := fun k => (congrArg (lookupKV k) hstoreA).trans
    (lookup_absorb_fetch m a.store b.store hb.sorted R k)
  have key_iff := fun (s : List (K × V)) k => lookupKV_ne_none_iff s k
  have hidle : a.store = b.store → a'.store = a.store := by
    intro heq
    rw [hstoreA, hnil heq, fetch_nil]
    rfl
  -- `PullF.comp`, said of entries of the stores
  have hcompF : NoCollisions hc →
      CoverF (fun k => lookupKV k b.store) (fun k => lookupKV k a.store) →
      ∀ k, lookupKV k b.store ≠ none → lookupKV k a.store ≠ lookupKV k b.store →
        inRanges R k = true := by
    intro hnc hcov k hkb hne
    cases hv : lookupKV k b.store with
    | none => exact absurd hv hkb
    | some v =>
      have hmem : (k, v) ∈ b.store := (lookupKV_eq_some _ hb.sorted k v).1 hv
      have hnmem : (k, v) ∉ a.store := fun hm =>
        hne (((lookupKV_eq_some _ ha.sorted k v).2 hm).trans hv.symm)
      refine hcomp hnc (fun x hx => ?_) (k, v) hmem hnmem
      obtain ⟨⟨y, hy, hyx⟩, ⟨z, hz, hxz⟩⟩ := hcov x ((key_iff _ x).2 hx)
      exact ⟨⟨y, (key_iff _ y).1 hy, hyx⟩, ⟨z, (key_iff _ z).1 hz, hxz⟩⟩
  refine ⟨R, a', b',
    { run := hpull
      inv_recv := hinvA
      inv_send := hinvB
      send_store := hstoreB
      lk := hlk
      idle := hidle
      pullF := fun hnc => { lk := hlk, comp := hcompF hnc, head := ?_ } }⟩
  -- `PullF.head`: the least and greatest keys are the first and last entries of the stores
  intro y0 x1 hy0 hmin hlt hx1 hlast
  have nonempty : ∀ {s : List (K × V)} {k}, lookupKV k s ≠ none → s ≠ [] := by
    rintro s k h rfl
    exact h rfl
  obtain ⟨a0, a1, ha0, ha1, ma0, -, la⟩ := ksorted_ends a.store ha.sorted (nonempty hx1)
  obtain ⟨b0, b1, hb0, hb1, mb0, mb1, lb⟩ := ksorted_ends b.store hb.sorted (nonempty hy0)
  have e0 : b0.1 = y0 := le_antisymm (lb y0 ((key_iff _ _).1 hy0)).1 (hmin _ ((key_iff _ _).2 mb0))
  rw [← e0]
  exact hhead a0 a1 b0 b1 ha0 ha1 hb0 hb1 (by rw [e0]; exact hlt _ ((key_iff _ _).2 ma0))
    (lt_of_lt_of_le (hlast _ ((key_iff _ _).2 mb1)) (la x1 ((key_iff _ _).1 hx1)).2)

/-- C05, first sentence, for the join merge and for peer-wins (`PullF.progress`). -/
theorem pull_progress {lvl : K → Nat} (hlvl : ∀ k, lvl k < 255) {hc : HashCfg K V D}
    (hnc : NoCollisions hc) (m : Merge)
    {a b : Replica K V D} (ha : RInv lvl hc a) (hb : RInv lvl hc b) (hne : a.store ≠ b.store) :
    (∃ a' b', pull lvl hc m a b = .ok (a', b') ∧ a'.store ≠ a.store) ∨
    (∃ b' a', pull lvl hc m b a = .ok (b', a') ∧ b'.store ≠ b.store) := by
  -- `p1` is the pull `b ← a` (the second disjunct), `p2` the pull `a ← b` (the first)
  obtain ⟨R1, b1, a1, p1⟩ := pull_lookup hlvl m hb ha
  obtain ⟨R2, a2, b2, p2⟩ := pull_lookup hlvl m ha hb
  rcases (p1.pullF hnc).progress (pullLk_laws m) (p2.pullF hnc) (bounded_lookup ha.sorted)
    (bounded_lookup hb.sorted) (exists_lookup_ne _ _ ha.sorted hb.sorted hne) with
    ⟨k, hk⟩ | ⟨k, hk⟩
  · exact Or.inr ⟨b1, a1, p1.run, fun e => hk (by rw [e])⟩
  · exact Or.inl ⟨a2, b2, p2.run, fun e => hk (by rw [e])⟩

/-- The loop of `tests/sync.rs` (`sync_round` one way, then the other) cut at `n` rounds; the test
stops when the root hashes agree, and then a round moves nothing (`C05_quiescent`). Vocabulary of
C05's statement, not a transcription: the model has `syncRound` only. -/
def syncRounds (lvl : K → Nat) (hc : HashCfg K V D) (m : Merge) :
    Nat → Replica K V D → Replica K V D → Except String (Replica K V D × Replica K V D)
  | 0, a, b => .ok (a, b)
  | n + 1, a, b =>
    match syncRound lvl hc m a b with
    | .error e => .error e
    | .ok (a', b') => syncRounds lvl hc m n a' b'

def joinLookup (a b : List (K × V)) (k : K) : Option V :=
  match lookupKV k a, lookupKV k b with
  | none, y => y
  | x, none => x
  | some x, some y => some (max x y)

theorem joinLookup_eq (a b : List (K × V)) (k : K) :
    joinLookup a b k = optMax (lookupKV k a) (lookupKV k b) := by
  unfold joinLookup optMax
  cases lookupKV k a <;> cases lookupKV k b <;> rfl

/-- What C05 needs of one two-way round `a b ↦ a₂ b₂`. -/
structure Round (lvl : K → Nat) (hc : HashCfg K V D) (m : Merge) (a b a₂ b₂ : Replica K V D) :
    Prop where
  run : syncRound lvl hc m a b = .ok (a₂, b₂)
  inv_left : RInv lvl hc a₂
  inv_right : RInv lvl hc b₂
  idle : a.store = b.store → a₂.store = a.store ∧ b₂.store = b.store
  fewer : NoCollisions hc → a.store ≠ b.store →
    disagree a₂.store b₂.store < disagree a.store b.store
  /-- no pull changes the keywise join: the end state holds the join of the initial stores -/
  join : m = .joinMax → ∀ k, joinLookup a₂.store b₂.store k = joinLookup a.store b.store k

theorem round_spec {lvl : K → Nat} (hlvl : ∀ k, lvl k < 255) {hc : HashCfg K V D} (m : Merge)
    {a b : Replica K V D} (ha : RInv lvl hc a) (hb : RInv lvl hc b) :
    ∃ a₂ b₂, Round lvl hc m a b a₂ b₂ := by
  -- `b₁ := b ← a`, then `a₂ := a ← b₁`; the first pull leaves `a`'s store alone, the second `b₁`'s
  obtain ⟨R1, b₁, a₁, p1⟩ := pull_lookup hlvl m hb ha
  obtain ⟨R2, a₂, b₂, p2⟩ := pull_lookup hlvl m p1.inv_send p1.inv_recv
  have hb₁ := p1.inv_recv
  have hlk2 := p2.lk
  have hidle2 := p2.idle
  have hF2 := p2.pullF
  rw [p1.send_store] at hlk2 hidle2 hF2
  refine ⟨a₂, b₂, by simp only [syncRound, p1.run, p2.run], p2.inv_recv, p2.inv_send, ?_, ?_, ?_⟩
  · intro heq
    have e1 := p1.idle heq.symm
    exact ⟨hidle2 (heq.trans e1.symm), p2.send_store.trans e1⟩
  · intro hnc hne
    -- the round creates a new agreement (`round_agree`) and keeps the old ones (`PullF.keep`)
    have hf := pullLk_laws (V := V) m
    obtain ⟨k0, hdiff, hagree⟩ := round_agree hf (p1.pullF hnc) (hF2 hnc)
      (bounded_lookup ha.sorted) (bounded_lookup hb.sorted) (bounded_lookup hb₁.sorted)
      (exists_lookup_ne _ _ ha.sorted hb.sorted hne)
    have hkeep : ∀ k, lookupKV k a.store = lookupKV k b.store →
        lookupKV k a₂.store = lookupKV k b₁.store := by
      intro k e
      have e1 : lookupKV k b₁.store = lookupKV k a.store := (p1.pullF hnc).keep hf k e.symm
      exact (hF2 hnc).keep hf k e1.symm
    rw [p2.send_store]
    exact disagree_lt_of a.store b.store a₂.store b₁.store k0
      (fun k h e => h (hkeep k e)) hdiff hagree
  · rintro rfl k
    -- the second pull keeps the join with `b₁`, the first the join with `a`
    rw [joinLookup_eq, joinLookup_eq, p2.send_store, hlk2 k, p1.lk k]
    simp only [pullLk_joinMax]
    rw [optMax_fetch_left, optMax_fetch_right]

end Mst

/-! ### Selective merges: the max of a LINEAR order (and peer-wins)

The merged value is one of the two inputs, so a change of the receiver at a key makes the two
replicas agree there. Not so for a general join: `x ⊔ y` may differ from both. -/

namespace Mst
variable {K V D : Type} [LinearOrder K] [LinearOrder V] [DecidableEq D]

theorem apply_joinMax_linear (o v : V) :
    Merge.apply .joinMax (some o) v = if o < v then v else o := by
  simp only [Merge.apply]
  by_cases h : o < v
  · rw [if_pos h]; exact max_eq_right (le_of_lt h)
  · rw [if_neg h]; exact max_eq_left (not_lt.1 h)

theorem pullLk_of_ne (m : Merge) (x y : Option V) (h : pullLk m x y ≠ x) :
    pullLk m x y = y ∧ x ≠ y := by
  cases y with
  | none => exact absurd rfl h
  | some v =>
    cases x with
    | none => exact ⟨rfl, fun e => nomatch e⟩
    | some o =>
      cases m with
      | peerWins =>
        refine ⟨rfl, ?_⟩
        intro e; apply h; rw [e]; rfl
      | joinMax =>
        have hval : pullLk .joinMax (some o) (some v) = some (if o < v then v else o) :=
          congrArg some (apply_joinMax_linear o v)
        rw [hval] at h ⊢
        by_cases hlt : o < v
        · rw [if_pos hlt] at h ⊢
          exact ⟨rfl, fun e => h e.symm⟩
        · rw [if_neg hlt] at h
          exact absurd rfl h

/-- Effect of one pull on agreement: no new disagreement, and a change of the receiver removes one. -/
theorem recv_step (m : Merge) (x y x' : List (K × V)) (hx : KSorted x) (hx' : KSorted x')
    (P : K → Bool)
    (h : ∀ k, lookupKV k x' =
      if P k = true then pullLk m (lookupKV k x) (lookupKV k y) else lookupKV k x) :
    (∀ k, lookupKV k x' ≠ lookupKV k y → lookupKV k x ≠ lookupKV k y) ∧
    (x' ≠ x → ∃ k0, lookupKV k0 x ≠ lookupKV k0 y ∧ lookupKV k0 x' = lookupKV k0 y) := by
  refine ⟨fun k hk e => hk ?_, ?_⟩
  · rw [h k]
    split
    · rw [pullLk_of_eq m _ _ e, e]
    · exact e
  intro hne
  obtain ⟨k0, hk0⟩ := exists_lookup_ne x' x hx' hx hne
  refine ⟨k0, ?_⟩
  rw [h k0] at hk0 ⊢
  by_cases hp : P k0 = true
  · rw [if_pos hp] at hk0 ⊢
    obtain ⟨e1, e2⟩ := pullLk_of_ne m _ _ hk0
    exact ⟨e2, e1⟩
  · rw [if_neg hp] at hk0
    exact absurd rfl hk0

end Mst
