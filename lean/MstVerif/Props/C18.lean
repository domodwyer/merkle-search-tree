/-
C18 — All guarantees hold for every configuration, and equal configurations agree.
Every theorem in `Props/` is universally quantified over the key type (`LinearOrder K`), the value
and page digest types, the level function `lvl : K → Nat` (hasher × level base, levels < 255) and
the page hasher configuration `hc`. This file records the consequences the property names.
The construction layer — `Builder` and its two setters, `build`, `default()`, the deprecated
`new_with_hasher`, `Clone`/`clone_from`, the stored hasher and level base, `SipHasher::default()` /
`SipHasher::new(seed)` over the `std::hash::Hash` byte streams of the key/value types, and
`upsert(key, value)` computing digests and the level from them — is modelled in `Model/Api.lean`; the
`C18_api_*` theorems below lift the tree-level results to it. What remains decided by correspondence
only: cargo features (display / tracing code) and the build profiles (`tcfg` stream over feature
sets × profiles, DESIGN §7 C18).
-/
import MstVerif.Props.C01
import MstVerif.Proofs.Api

namespace Mst.Props
variable {K V D : Type} [LinearOrder K]

/-- The level base (and hasher) changes only the shape, never the key/value content:
the same history under two different level functions holds the same in-order content. -/
theorem C18_base_content (lvl₁ lvl₂ : K → Nat) (h₁ : ∀ k, lvl₁ k < 255) (h₂ : ∀ k, lvl₂ k < 255)
    (hc : HashCfg K V D) (ops : List (Op K V)) :
    ∃ t₁ t₂, run lvl₁ hc ops = .ok t₁ ∧ run lvl₂ hc ops = .ok t₂ ∧
      t₁.root.content = t₂.root.content := by
  obtain ⟨t₁, r₁, _, c₁⟩ := run_inv lvl₁ h₁ hc ops
  obtain ⟨t₂, r₂, _, c₂⟩ := run_inv lvl₂ h₂ hc ops
  exact ⟨t₁, t₂, r₁, r₂, by rw [c₁, c₂]⟩

/-- Equal configurations agree: two trees driven by the same level function and page hasher
through histories with the same final map are interchangeable (same hashes, same page ranges) —
whatever the key type, digest width, base, hasher or seed. (Instance of C01, stated with every
parameter explicit.) -/
theorem C18_generic (K V D : Type) [LinearOrder K] (lvl : K → Nat) (hlvl : ∀ k, lvl k < 255)
    (hc : HashCfg K V D) (ops₁ ops₂ : List (Op K V)) (h : ∀ k, lastWrite ops₁ k = lastWrite ops₂ k) :
    ∃ t₁ t₂, run lvl hc ops₁ = .ok t₁ ∧ run lvl hc ops₂ = .ok t₂ ∧
      t₁.genRootHash hc = t₂.genRootHash hc := by
  obtain ⟨t₁, t₂, r₁, r₂, _, e, _, _⟩ := C01 lvl hlvl hc ops₁ ops₂ h
  exact ⟨t₁, t₂, r₁, r₂, e⟩

/-- The three constructors yield the same (empty) tree; hence, driven by the same level function
through histories with the same final map, they are interchangeable (by `C18_generic`). The stored
hasher/base themselves are glue tied by the `tcfg` stream (three constructors × two builder setter
orders × clone, identical dumps required). -/
theorem C18_constructors :
    (Tree.default : Tree K V D) = Tree.builderBuild ∧ (Tree.default : Tree K V D) = Tree.newWithHasher ∧
    (Tree.default : Tree K V D) = Tree.empty :=
  ⟨rfl, rfl, rfl⟩

/-- The three constructors agree: `Builder::default().build()` is `MerkleSearchTree::default()`,
`Builder::default().with_hasher(h).build()` is the deprecated `new_with_hasher(h)`; the builder's two
setters commute and `build` stores exactly the last hasher and the last base supplied, whatever the
order of the calls; `clone` and `clone_from` yield the source (hasher and base included). -/
theorem C18_api_constructors (b : TreeBuilder) (h : HasherM) (n : Nat) (m m' : MST K D) :
    (TreeBuilder.default.build : MST K D) = MST.default ∧
    ((TreeBuilder.default.withHasher h).build : MST K D) = MST.newWithHasher h ∧
    (b.withHasher h).withLevelBase n = (b.withLevelBase n).withHasher h ∧
    (((b.withHasher h).withLevelBase n).build : MST K D) = { hasher := h, levelBase := n, tree := Tree.empty } ∧
    (((b.withLevelBase n).withHasher h).build : MST K D) = { hasher := h, levelBase := n, tree := Tree.empty } ∧
    m.clone = m ∧ m'.cloneFrom m = m :=
  ⟨rfl, rfl, rfl, rfl, rfl, rfl, rfl⟩

/-- **Equal configurations agree, at the level of the public API.** Two freshly constructed trees
that store the same hasher and the same level base — however they were obtained: `default()`, the
builder with its setters in either order, the deprecated constructor, a clone — driven through ANY
two histories of `upsert(key, value)` / `root_hash()` calls that leave the same last value per key,
never panic and end, after a hash request, in the identical tree: same root hash, same page ranges.
Holds for the default and every seeded `SipHasher` (16-byte digests) and for every custom hasher
with digests of at most 32 bytes, every level base, every key type / `Hash` encoding. -/
theorem C18_api_interchangeable (hc : HashCfg K (List UInt8) D) (e : Enc K)
    (hw : ∀ r, (e.envK r).length ≤ 32)
    (m₁ m₂ : MST K D) (h₁ : m₁.tree = Tree.empty) (h₂ : m₂.tree = Tree.empty)
    (hh : m₂.hasher = m₁.hasher) (hb : m₂.levelBase = m₁.levelBase)
    (ops₁ ops₂ : List (AOp K)) (h : ∀ k, lastWriteA k none ops₁ = lastWriteA k none ops₂) :
    ∃ r₁ r₂, MST.runFrom hc e m₁ ops₁ = .ok r₁ ∧ MST.runFrom hc e m₂ ops₂ = .ok r₂ ∧
      r₁.hasher = m₁.hasher ∧ r₁.levelBase = m₁.levelBase ∧
      r₂.hasher = r₁.hasher ∧ r₂.levelBase = r₁.levelBase ∧
      (r₁.genRootHash hc).tree = (r₂.genRootHash hc).tree ∧
      (r₁.genRootHash hc).tree.rootHash = (r₂.genRootHash hc).tree.rootHash ∧
      (r₁.genRootHash hc).tree.serialise = (r₂.genRootHash hc).tree.serialise := by
  have hk : m₂.keyLevel e = m₁.keyLevel e := MST.keyLevel_congr e hh hb
  have ht : m₂.toOp e = m₁.toOp e := MST.toOp_congr e hh
  -- `lastWrite ops k` is `lastWriteFrom k none ops`, and `none.map _` is `none`
  have hlw : ∀ k, lastWrite (ops₁.map (m₁.toOp e)) k = lastWrite (ops₂.map (m₁.toOp e)) k := fun k =>
    (lastWriteFrom_map_toOp m₁ e k ops₁ none).trans
      ((congrArg (Option.map (m₁.valueDigest e)) (h k)).trans
        (lastWriteFrom_map_toOp m₁ e k ops₂ none).symm)
  obtain ⟨t₁, t₂, e₁, e₂, -, htree, hroot, hser⟩ :=
    C01 (m₁.keyLevel e) (MST.keyLevel_lt_255 m₁ e hw) hc _ _ hlw
  -- `run` is `runFrom` from the empty tree, by definition
  have e₁' : Mst.runFrom (m₁.keyLevel e) hc Tree.empty (ops₁.map (m₁.toOp e)) = .ok t₁ := e₁
  have e₂' : Mst.runFrom (m₁.keyLevel e) hc Tree.empty (ops₂.map (m₁.toOp e)) = .ok t₂ := e₂
  exact ⟨{ m₁ with tree := t₁ }, { m₂ with tree := t₂ },
    by rw [MST.runFrom_refines, h₁, e₁'],
    by rw [MST.runFrom_refines, h₂, hk, ht, e₂'],
    rfl,
    rfl,
    hh,
    hb,
    htree,
    hroot,
    hser⟩

/-- Instance: a tree from the builder (setters in either order) with base 16 and hasher `h`, one from
the deprecated constructor with `h`, and — for the default hasher — `default()` are interchangeable. -/
theorem C18_api_three_constructors (hc : HashCfg K (List UInt8) D) (e : Enc K)
    (hw : ∀ r, (e.envK r).length ≤ 32) (h : HasherM)
    (ops₁ ops₂ : List (AOp K)) (hl : ∀ k, lastWriteA k none ops₁ = lastWriteA k none ops₂) :
    ∃ r₁ r₂, MST.runFrom hc e (((TreeBuilder.default.withLevelBase defaultLevelBase).withHasher h).build) ops₁ = .ok r₁ ∧
      MST.runFrom hc e (MST.newWithHasher h) ops₂ = .ok r₂ ∧
      (r₁.genRootHash hc).tree = (r₂.genRootHash hc).tree := by
  obtain ⟨r₁, r₂, hrun₁, hrun₂, -, -, -, -, htree, -⟩ :=
    C18_api_interchangeable hc e hw
      (((TreeBuilder.default.withLevelBase defaultLevelBase).withHasher h).build)
      (MST.newWithHasher h) rfl rfl rfl rfl ops₁ ops₂ hl
  exact ⟨r₁, r₂, hrun₁, hrun₂, htree⟩

/-- Different values of one key/value type feed different byte streams to the hasher (`impl Hash`
framing: length prefix for byte slices and arrays, `0xff` terminator for strings), so two keys of
one tree can only share a digest through a collision of the hash itself. -/
theorem C18_api_hash_framing (kind : HKind) (a b : List UInt8)
    (h : stdHashBytes kind a = stdHashBytes kind b) : a = b := by
  cases kind with
  | bytes | array =>
    have h : lenPrefix a.length ++ a = lenPrefix b.length ++ b := h
    have h8 : (lenPrefix a.length).length = (lenPrefix b.length).length := by
      rw [lenPrefix_length, lenPrefix_length]
    exact (List.append_inj h h8).2
  | str =>
    have h : a ++ [0xff] = b ++ [0xff] := h
    exact List.append_inj_left' h rfl

end Mst.Props
