/-
C14 — Hash construction and level derivation match the stable reference construction.
-/
import MstVerif.Proofs.History
import MstVerif.Proofs.Ref
import MstVerif.Proofs.LevelU8

namespace Mst.Props
variable {K V D : Type} [LinearOrder K]

/-- A key's level is the count of leading zero digits of its digest under the base: two per zero
byte, one more if the next byte is a non-zero multiple of the base — for every byte string (any
digest width) and every base. -/
theorem C14_level (d : List UInt8) (base : Nat) : level d base = refLevel d base :=
  level_eq_refLevel d base

/-- … and it never overflows the `u8` the Rust uses for digests up to 32 bytes. -/
theorem C14_level_bound (d : List UInt8) (base : Nat) (h : d.length ≤ 32) : level d base < 255 :=
  level_lt_255 d base h

/-- After ANY history (any order, overwrites, intermediate hash requests) the root hash reported
equals the digest of the reference construction (`refRoot`, Ref.lean: built from the sorted content
alone, never through `upsert`) of the final content; the construction feeds the page hasher, per
key in ascending order, the digest of the page just below that key if there is one, the key bytes
and the value digest, followed by the digest of the high page if there is one (`Pg.hashBytes`). -/
theorem C14_root (lvl : K → Nat) (hlvl : ∀ k, lvl k < 255) (hc : HashCfg K V D) (ops : List (Op K V)) :
    ∃ t, run lvl hc ops = .ok t ∧
      (t.genRootHash hc).rootHash = refRoot lvl hc (finalContent ops) ∧
      (t.genRootHash hc).root.erase = (refRootPg (D := D) lvl (finalContent ops)).erase := by
  obtain ⟨t, r, i, c⟩ := run_inv lvl hlvl hc ops
  refine ⟨t, r, ?_, ?_⟩
  · rw [i.genRootHash_rootHash, trueHash_eq_refRoot hc i.shape, c]
  · rw [i.genRootHash_erase, erase_eq_ref i.shape, c]

/-- The Rust accumulates the level in a `u8` (src/digest/trait.rs:78-90). For every digest of at most
127 bytes (the property quantifies over widths 1..32) and every base, in BOTH build profiles (overflow
checks on / off), that machine computation returns exactly the model's level, which is < 255. At 128
zero bytes it overflows: a panic with overflow checks, a silent wrap to level 0 without — outside the
quantifier, recorded so that the `Nat` in the model hides nothing. -/
theorem C14_level_machine (checked : Bool) (d : List UInt8) (base : Nat) (h : d.length ≤ 127) :
    levelU8 checked d base = .ok (UInt8.ofNat (level d base)) ∧ level d base < 255 := by
  constructor
  · have := levelU8Loop_eq checked base d 0 (by simp; omega)
    simpa [levelU8] using this
  · have := level_le d base; omega

theorem C14_level_machine_overflow (base : Nat) :
    (levelU8 true (List.replicate 128 0) base).toOption = none ∧
    (levelU8 false (List.replicate 128 0) base).toOption = some 0 ∧
    level (List.replicate 128 0) base = 256 := by
  refine ⟨?_, ?_, level_zeros base 128⟩
  · -- checked: the add at the 128th byte panics
    unfold levelU8
    -- base `1` in place of the variable `base`: a closed term, which `decide` can evaluate
    rw [levelU8Loop_zeros]
    decide +kernel
  · -- unchecked: it wraps to 0
    unfold levelU8
    rw [levelU8Loop_zeros]
    decide +kernel

/-- Every page digest (not only the root's) is the reference one: the hashed tree is, page for
page, the hashed (cache-free) reference tree. -/
theorem C14_pages (lvl : K → Nat) (hlvl : ∀ k, lvl k < 255) (hc : HashCfg K V D) (ops : List (Op K V)) :
    ∃ t, run lvl hc ops = .ok t ∧
      (t.genRootHash hc).root = genPg hc (refRootPg (D := D) lvl (finalContent ops)).erase := by
  obtain ⟨t, r, i, c⟩ := run_inv lvl hlvl hc ops
  refine ⟨t, r, ?_⟩
  show genPg hc t.root = _
  refine genPg_congr hc i.cacheOK (cacheOK_erase hc _) ?_
  rw [erase_erase, erase_eq_ref i.shape, c]

end Mst.Props
