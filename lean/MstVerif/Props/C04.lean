/-
C04 — No false convergence: empty diffs in both directions imply equal content.
-/
import MstVerif.Proofs.DiffTree

namespace Mst.Props
variable {K V D : Type} [LinearOrder K] [DecidableEq D]

/-- If diffing A against B and B against A both return no ranges, A and B hold exactly the same
keys with the same value digests — for every pair of hashed real trees (overlapping, nested,
partially overlapping, disjoint spans, empty trees), every level structure; up to collisions of
the page digest. -/
theorem C04 (lvl : K → Nat) (hc : HashCfg K V D) (tA tB : Tree K V D)
    (hA : Hashed lvl hc tA) (hB : Hashed lvl hc tB)
    (hcf : CollisionFree hc (tA.root.allToks hc ++ tB.root.allToks hc))
    (h1 : diff (pageRanges hc tA) (pageRanges hc tB) = .ok [])
    (h2 : diff (pageRanges hc tB) (pageRanges hc tA) = .ok []) :
    tA.root.content = tB.root.content :=
  no_false_convergence lvl hc tA tB hA hB hcf h1 h2

/-- Equivalently: whenever two replicas differ, at least one direction reports a range. -/
theorem C04_some_direction (lvl : K → Nat) (hc : HashCfg K V D) (tA tB : Tree K V D)
    (hA : Hashed lvl hc tA) (hB : Hashed lvl hc tB)
    (hcf : CollisionFree hc (tA.root.allToks hc ++ tB.root.allToks hc))
    (hne : tA.root.content ≠ tB.root.content) :
    (∃ r out, diff (pageRanges hc tA) (pageRanges hc tB) = .ok (r :: out)) ∨
    (∃ r out, diff (pageRanges hc tB) (pageRanges hc tA) = .ok (r :: out)) := by
  obtain ⟨o1, e1, _, _⟩ := diff_trees_ok lvl hc tA tB hA hB
  obtain ⟨o2, e2, _, _⟩ := diff_trees_ok lvl hc tB tA hB hA
  cases o1 with
  | cons r out => exact Or.inl ⟨r, out, e1⟩
  | nil =>
    cases o2 with
    | cons r out => exact Or.inr ⟨r, out, e2⟩
    | nil => exact absurd (C04 lvl hc tA tB hA hB hcf e1 e2) hne

/-- Every reported range starts at a key the peer really holds, so a non-empty diff always
fetches at least one key. -/
theorem C04_start_held (lvl : K → Nat) (hc : HashCfg K V D) (tL tP : Tree K V D)
    (hL : Hashed lvl hc tL) (hP : Hashed lvl hc tP) (out : List (DR K))
    (h : diff (pageRanges hc tL) (pageRanges hc tP) = .ok out) :
    ∀ r ∈ out, r.1 ∈ tP.root.keys ∧ DR.mem r.1 r := by
  intro r hr
  obtain ⟨o, e, _, hv⟩ := diff_trees_ok lvl hc tL tP hL hP
  rw [h] at e
  cases e
  -- `DR.mem r.1 r` unfolds to `r.1 ≤ r.1 ∧ r.1 ≤ r.2`
  exact ⟨(diff_trees_confined lvl hc tL tP hL hP out h r hr).1, le_refl _, hv r hr⟩

-- `hnc` is `NoCollisions hc` (Proofs/Sync.lean) written out; `perfectCfg_noCollisions` meets it.
/-- For histories: if the two real serialisations diff to nothing in both directions, the two
last-write-wins maps are equal. -/
theorem C04_histories (lvl : K → Nat) (hlvl : ∀ k, lvl k < 255) (hc : HashCfg K V D)
    (hnc : ∀ p q : Pg K V D, CollisionFree hc (p.allToks hc ++ q.allToks hc))
    (opsA opsB : List (Op K V)) :
    ∃ tA tB lA lB, run lvl hc (opsA ++ [.hash]) = .ok tA ∧ run lvl hc (opsB ++ [.hash]) = .ok tB ∧
      tA.serialise = .ok (some lA) ∧ tB.serialise = .ok (some lB) ∧
      (diff lA lB = .ok [] → diff lB lA = .ok [] → finalContent opsA = finalContent opsB) := by
  obtain ⟨tA, rA, hA, cA⟩ := hashed_of_run lvl hlvl hc opsA
  obtain ⟨tB, rB, hB, cB⟩ := hashed_of_run lvl hlvl hc opsB
  refine ⟨tA, tB, _, _, rA, rB, hA.serialise, hB.serialise, fun h1 h2 => ?_⟩
  rw [← cA, ← cB]
  exact C04 lvl hc tA tB hA hB (hnc _ _) h1 h2

end Mst.Props
