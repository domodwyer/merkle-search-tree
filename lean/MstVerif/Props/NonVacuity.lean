/-
Non-vacuity of the hypotheses used by the property theorems: concrete, non-trivial states that
satisfy them (tests, labelled as tests — not part of any claim). Key/value type `Nat`, page
digests `List UInt8`, the injective page hasher `perfectCfg` (so `CollisionFree`/`NoCollisions`
hold), key level = key mod 3 (three tree levels).
-/
import MstVerif.Proofs.DiffTree
import MstVerif.Proofs.Extras
import MstVerif.Proofs.SyncN

namespace Mst.Props

def lvl3 : Nat → Nat := fun k => k % 3

theorem lvl3_lt : ∀ k, lvl3 k < 255 := fun k => Nat.lt_trans (Nat.mod_lt k (by decide)) (by decide)

/-- Every history reaches a hashed real tree (`Hashed`), e.g. this one with three levels, a
populated high page and an intermediate hash request (the F1 shape). -/
example : ∃ t, run lvl3 perfectCfg ([.ups 4 1, .ups 6 1, .hash, .ups 5 1] ++ [Op.hash]) = .ok t ∧
    Hashed lvl3 perfectCfg t ∧ t.root.content = [(4, 1), (5, 1), (6, 1)] := by
  obtain ⟨t, h1, h2, h3⟩ := hashed_of_run lvl3 lvl3_lt perfectCfg [.ups 4 1, .ups 6 1, .hash, .ups 5 1]
  exact ⟨t, h1, h2, by rw [h3]; decide⟩

/-- The hypotheses of C07 (two hashed trees, collision-freeness, the span condition, a key the
peer holds with a different value digest) are jointly satisfiable. -/
example : ∃ tL tP : Tree Nat Nat (List UInt8),
    Hashed lvl3 perfectCfg tL ∧ Hashed lvl3 perfectCfg tP ∧
    CollisionFree perfectCfg (tL.root.allToks perfectCfg ++ tP.root.allToks perfectCfg) ∧
    SpanCovers tL tP ∧ (2, 21) ∈ tP.root.content ∧ (2, 21) ∉ tL.root.content := by
  obtain ⟨tL, _, hL, cL⟩ := hashed_of_run lvl3 lvl3_lt perfectCfg [.ups 2 20]
  obtain ⟨tP, _, hP, cP⟩ := hashed_of_run lvl3 lvl3_lt perfectCfg [.ups 1 10, .ups 3 30, .ups 2 21]
  refine ⟨tL, tP, hL, hP, perfectCfg_noCollisions _ _, ?_, ?_, ?_⟩
  · unfold SpanCovers Pg.keys
    rw [cL, cP]
    decide
  · rw [cP]; decide
  · rw [cL]; decide

/-- The hypotheses of C04/C05 on a pair with partially overlapping spans and different content. -/
example : ∃ tA tB : Tree Nat Nat (List UInt8),
    Hashed lvl3 perfectCfg tA ∧ Hashed lvl3 perfectCfg tB ∧ tA.root.content ≠ tB.root.content := by
  obtain ⟨tA, _, hA, cA⟩ := hashed_of_run lvl3 lvl3_lt perfectCfg [.ups 1 1, .ups 5 1]
  obtain ⟨tB, _, hB, cB⟩ := hashed_of_run lvl3 lvl3_lt perfectCfg [.ups 3 1, .ups 9 1]
  exact ⟨tA, tB, hA, hB, by rw [cA, cB]; decide⟩

/-- Replica states satisfying `RInv` with different stores exist (reached by writes), and the
`NoCollisions` hypothesis of C05/C06 holds for `perfectCfg`. -/
example : NoCollisions perfectCfg ∧
    ∃ rs : List (Replica Nat Nat (List UInt8)),
      syncRun lvl3 perfectCfg .joinMax (freshReplicas 2) [.write 0 1 5, .write 1 2 7] = .ok rs ∧
      rs.length = 2 ∧ ∀ r ∈ rs, RInv lvl3 perfectCfg r := by
  refine ⟨perfectCfg_noCollisions, ?_⟩
  obtain ⟨rs, h1, h2, h3⟩ := syncRun_inv lvl3_lt .joinMax (freshReplicas_inv lvl3 perfectCfg 2)
    [.write 0 1 5, .write 1 2 7]
  exact ⟨rs, h1, h2.trans List.length_replicate, h3⟩

end Mst.Props
