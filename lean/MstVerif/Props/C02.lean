/-
C02 — Lazily cached hashes are never stale; the staleness gate.
-/
import MstVerif.Proofs.History
import MstVerif.Proofs.Traverse

namespace Mst.Props
variable {K V D : Type} [LinearOrder K]

/-- The hash-free history that builds a content freshly: one upsert per entry. -/
def freshOps (c : List (K × V)) : List (Op K V) := c.map fun kv => Op.ups kv.1 kv.2

/-- The CacheOK invariant at every reachable (content, cache-state) pair — every prefix of every
history over {upsert, hash} is itself a history, so this covers all interleavings: every cached
page digest anywhere in the tree is the true digest of that page's current subtree. -/
theorem C02_no_stale_cache (lvl : K → Nat) (hlvl : ∀ k, lvl k < 255) (hc : HashCfg K V D)
    (ops : List (Op K V)) :
    ∃ t, run lvl hc ops = .ok t ∧ CacheOKPg hc t.root ∧
      (∀ d, t.rootHash = some d → some d = t.root.trueHash hc) := by
  obtain ⟨t, r, i, _⟩ := run_inv lvl hlvl hc ops
  exact ⟨t, r, i.cacheOK, fun d hd => (i.rootHash_true hd).symm⟩

/-- After ANY interleaving of upserts and hash requests, a hash request yields exactly the tree
(root hash, every page's cached digest, page ranges) that a tree freshly built from the same
content by upserts only and hashed once reports. -/
theorem C02_fresh (lvl : K → Nat) (hlvl : ∀ k, lvl k < 255) (hc : HashCfg K V D)
    (ops : List (Op K V)) :
    ∃ t f, run lvl hc ops = .ok t ∧ run lvl hc (freshOps (finalContent ops)) = .ok f ∧
      t.genRootHash hc = f.genRootHash hc := by
  obtain ⟨t, r₁, i₁, c₁⟩ := run_inv lvl hlvl hc ops
  obtain ⟨f, r₂, i₂, c₂⟩ := run_inv lvl hlvl hc (freshOps (finalContent ops))
  refine ⟨t, f, r₁, r₂, i₁.genRootHash_congr i₂ ?_⟩
  rw [c₁, c₂]
  -- the fresh history reaches the same content (`finalContent` is `applyOps` from `[]`)
  exact (applyOps_map_ups (finalContent ops) [] (finalContent_sorted ops)).symm

/-- The staleness gate: after any upsert from any reachable state — also one that leaves the value
unchanged — the cached root hash and the page-range serialisation are unavailable. -/
theorem C02_gate (lvl : K → Nat) (hlvl : ∀ k, lvl k < 255) (hc : HashCfg K V D)
    (ops : List (Op K V)) (k : K) (v : V) :
    ∃ t, run lvl hc (ops ++ [.ups k v]) = .ok t ∧ t.rootHashCached = none ∧ t.serialise = .ok none := by
  obtain ⟨t₀, r₀, i₀, _⟩ := run_inv lvl hlvl hc ops
  obtain ⟨t, h1, _, _, h4⟩ := Tree.upsert_inv lvl hlvl hc t₀ i₀ k v
  exact ⟨t, (run_snoc r₀ _).trans h1, h4, serialise_none t h4⟩

/-- … and a hash request makes both available again, up to date. -/
theorem C02_regenerated (lvl : K → Nat) (hlvl : ∀ k, lvl k < 255) (hc : HashCfg K V D)
    (ops : List (Op K V)) :
    ∃ t, run lvl hc (ops ++ [.hash]) = .ok t ∧ t.rootHashCached = t.root.trueHash hc ∧
      t.rootHashCached.isSome ∧ ∃ l, t.serialise = .ok (some l) := by
  obtain ⟨t₀, r₀, i₀, _⟩ := run_inv lvl hlvl hc ops
  obtain ⟨i₁, hroot, hsome, herase, -⟩ := genRootHash_inv lvl hc t₀ i₀
  obtain ⟨l, hl, -⟩ := serialise_spec i₁ hsome
  exact ⟨_, run_snoc r₀ .hash, hroot.trans (trueHash_congr hc herase).symm, hsome, l, hl⟩

/-- Non-vacuity (test): the F1 history — hash between upserts on three levels — is a history. -/
example : (([.ups 0 1, .ups 2 1, .hash, .ups 1 1] : List (Op Nat Nat)).length = 4) := rfl

end Mst.Props
