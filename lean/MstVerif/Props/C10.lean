/-
C10 — Upsert has exact map semantics: nothing lost, duplicated or left stale.
-/
import MstVerif.Proofs.History

namespace Mst.Props
variable {K V D : Type} [LinearOrder K]

/-- After any history the tree's in-order content is strictly ascending by key (each key once) and
its entries are exactly the last write of every key ever upserted. -/
theorem C10 (lvl : K → Nat) (hlvl : ∀ k, lvl k < 255) (hc : HashCfg K V D) (ops : List (Op K V)) :
    ∃ t, run lvl hc ops = .ok t ∧ KSorted t.root.content ∧
      ∀ k v, (k, v) ∈ t.root.content ↔ lastWrite ops k = some v := by
  obtain ⟨t, r, _, c⟩ := run_inv lvl hlvl hc ops
  refine ⟨t, r, ?_, ?_⟩
  · rw [c]; exact finalContent_sorted ops
  · intro k v; rw [c]; exact mem_finalContent ops k v

/-- Upserting a key never alters the stored digest of any other key. -/
theorem C10_frame (lvl : K → Nat) (hlvl : ∀ k, lvl k < 255) (hc : HashCfg K V D)
    (ops : List (Op K V)) (k : K) (v : V) (k' : K) (hne : k' ≠ k) :
    ∃ t t', run lvl hc ops = .ok t ∧ run lvl hc (ops ++ [.ups k v]) = .ok t' ∧
      (∀ w, (k', w) ∈ t'.root.content ↔ (k', w) ∈ t.root.content) ∧
      (k, v) ∈ t'.root.content := by
  obtain ⟨t, r, _, m⟩ := C10 lvl hlvl hc ops
  obtain ⟨t', r', _, m'⟩ := C10 lvl hlvl hc (ops ++ [.ups k v])
  refine ⟨t, t', r, r', fun w => ?_, ?_⟩
  · rw [m, m', lastWrite_snoc_ups, if_neg (Ne.symm hne)]
  · rw [m', lastWrite_snoc_ups, if_pos rfl]

end Mst.Props
