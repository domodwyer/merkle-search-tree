/-
C11 — Serialised page ranges describe the tree faithfully and in diffable order.
-/
import MstVerif.Proofs.DiffTree

namespace Mst.Props
variable {K V D : Type} [LinearOrder K] [DecidableEq D]

/-- Once the root hash has been generated (`Hashed`: any reachable state after a hash request),
`serialise_page_ranges()` succeeds and lists every page in pre-order — the page, then the subtree
under each of its keys in key order, then its high page (`Pg.preorder`) — each as
(smallest key, largest key of the page's whole subtree, the page's digest) (`rangeOf`);
an empty tree serialises to the empty list. -/
theorem C11_preorder (lvl : K → Nat) (hc : HashCfg K V D) (t : Tree K V D) (h : Hashed lvl hc t) :
    ∃ l, t.serialise = .ok (some l) ∧
      (t.root.content = [] → l = []) ∧
      (t.root.content ≠ [] → l.map some = t.root.preorder.map (rangeOf hc)) :=
  serialise_spec h.inv h.hashed

/-- Each page exactly once: as many entries as the tree has pages. -/
theorem C11_once (lvl : K → Nat) (hc : HashCfg K V D) (t : Tree K V D) (h : Hashed lvl hc t)
    (hne : t.root.content ≠ []) :
    ∃ l, t.serialise = .ok (some l) ∧ l.length = t.root.pageCount := by
  obtain ⟨l, h1, _, h3⟩ := C11_preorder lvl hc t h
  refine ⟨l, h1, ?_⟩
  have := congrArg List.length (h3 hne)
  simpa [preorder_length] using this

/-- The entry of a page carries the first and last key of the page's subtree and its true digest. -/
theorem C11_entry (lvl : K → Nat) (hc : HashCfg K V D) (b : Nat) (q : Pg K V D)
    (hlv : LvPg lvl b q) (hq : q.isSome = true) :
    ∃ a z d, q.content.head? = some a ∧ q.content.getLast? = some z ∧ q.trueHash hc = some d ∧
      rangeOf hc q = some { start := a.1, end_ := z.1, hash := d } :=
  rangeOf_exists hc hlv hq

/-- The first entry spans the whole tree and carries the root hash. -/
theorem C11_first (lvl : K → Nat) (hc : HashCfg K V D) (t : Tree K V D) (h : Hashed lvl hc t)
    (a z : K × V) (ha : t.root.content.head? = some a) (hz : t.root.content.getLast? = some z) :
    ∃ d rest, t.rootHash = some d ∧
      t.serialise = .ok (some ({ start := a.1, end_ := z.1, hash := d } :: rest)) := by
  obtain ⟨d, rest, h1, h2⟩ := pageRanges_head lvl hc t h a z ha hz
  exact ⟨d, rest, h1, by rw [h.serialise, h2]⟩

/-- Every entry lies inside the span of every page it is listed under (in particular its parent). -/
theorem C11_nested (lvl : K → Nat) (hc : HashCfg K V D) (t : Tree K V D) (h : Hashed lvl hc t)
    (p q : Pg K V D) (hp : p ∈ t.root.preorder) (hq : q ∈ p.preorder)
    (rp rq : PR K D) (hrp : rangeOf hc p = some rp) (hrq : rangeOf hc q = some rq) :
    rp.start ≤ rq.start ∧ rq.end_ ≤ rp.end_ :=
  rangeOf_nested (preorder_sorted _ _ h.inv.sorted hp) hq hrp hrq

/-- Sibling spans (the children of any page, in serialisation order) are disjoint and ascending. -/
theorem C11_siblings (lvl : K → Nat) (hc : HashCfg K V D) (t : Tree K V D) (h : Hashed lvl hc t)
    (p : Pg K V D) (hp : p ∈ t.root.preorder) :
    (p.children.filterMap (rangeOf hc)).Pairwise (fun r s => r.end_ < s.start) :=
  siblings_ascending hc (preorder_sorted _ _ h.inv.sorted hp)

/-- For every reachable tree: any history followed by the hash request. -/
theorem C11_histories (lvl : K → Nat) (hlvl : ∀ k, lvl k < 255) (hc : HashCfg K V D)
    (ops : List (Op K V)) :
    ∃ t l, run lvl hc (ops ++ [.hash]) = .ok t ∧ Hashed lvl hc t ∧ t.serialise = .ok (some l) ∧
      (finalContent ops = [] → l = []) ∧
      (finalContent ops ≠ [] → l.map some = t.root.preorder.map (rangeOf hc)) := by
  obtain ⟨t, r, hh, c⟩ := hashed_of_run lvl hlvl hc ops
  obtain ⟨l, h1, h2, h3⟩ := C11_preorder lvl hc t hh
  exact ⟨t, l, r, hh, h1, fun e => h2 (by rw [c, e]), fun e => h3 (by rw [c]; exact e)⟩

end Mst.Props
