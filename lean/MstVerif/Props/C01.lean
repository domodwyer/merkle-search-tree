/-
C01 — Root hash and page ranges depend only on final content, not on history.
-/
import MstVerif.Proofs.History
-- the order on `Nat`, for the example at the end
import Mathlib.Data.Nat.Basic

namespace Mst.Props
variable {K V D : Type} [LinearOrder K]

/-- Any two histories (any key order, duplicates, overwrites, hash requests anywhere) with the same
last-write-wins map run without panic and — once the hash is requested — yield the *identical*
observable tree: same shape, same cached digest on every page, same root hash, same page-range
serialisation. Quantified over every level assignment `lvl` (hasher + base) and page hasher `hc`. -/
theorem C01 (lvl : K → Nat) (hlvl : ∀ k, lvl k < 255) (hc : HashCfg K V D)
    (ops₁ ops₂ : List (Op K V)) (h : ∀ k, lastWrite ops₁ k = lastWrite ops₂ k) :
    ∃ t₁ t₂, run lvl hc ops₁ = .ok t₁ ∧ run lvl hc ops₂ = .ok t₂ ∧
      t₁.root.erase = t₂.root.erase ∧
      t₁.genRootHash hc = t₂.genRootHash hc ∧
      (t₁.genRootHash hc).rootHash = (t₂.genRootHash hc).rootHash ∧
      (t₁.genRootHash hc).serialise = (t₂.genRootHash hc).serialise := by
  obtain ⟨t₁, r₁, i₁, c₁⟩ := run_inv lvl hlvl hc ops₁
  obtain ⟨t₂, r₂, i₂, c₂⟩ := run_inv lvl hlvl hc ops₂
  have hcont : t₁.root.content = t₂.root.content := by rw [c₁, c₂, (finalContent_eq_iff ops₁ ops₂).2 h]
  have heq := i₁.genRootHash_congr i₂ hcont
  exact ⟨t₁, t₂, r₁, r₂, root_unique lvl _ _ i₁.shape i₂.shape hcont, heq, by rw [heq], by rw [heq]⟩

/-- Non-vacuity (a test, not part of the claim): two different histories over three keys on three
levels, one with an intermediate hash request, reach the same map. -/
example : ∃ ops₁ ops₂ : List (Op Nat Nat), ops₁ ≠ ops₂ ∧ ∀ k, lastWrite ops₁ k = lastWrite ops₂ k :=
  ⟨[.ups 1 10, .ups 3 30, .hash, .ups 2 20, .ups 1 11], [.ups 2 20, .ups 1 11, .ups 3 30],
   by simp, (finalContent_eq_iff _ _).1 (by decide)⟩

end Mst.Props
