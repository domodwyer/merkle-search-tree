/-
C16 — Owned snapshots and wire round-trips are equivalent to borrowed page ranges
(`src/diff/page_range_snapshot.rs`, modelled in `Model/Snapshot.lean`).
What a functional model cannot express is ALIASING: that the Rust snapshot shares no memory with the
tree is a fact about ownership (the snapshot clones the keys), decided by the `snap` op of the
`trand` stream with real `PageRangeSnapshot` objects kept across later upserts (DESIGN §7 C16); the theorems
below prove everything else — in particular that the snapshot VALUE taken from a reachable tree keeps
yielding the page ranges of the tree as it was, for every continuation of upserts.
-/
import MstVerif.Proofs.DiffList
import MstVerif.Proofs.Snapshot

namespace Mst.Props
variable {K D : Type} [LinearOrder K] [DecidableEq D]

/-- The wire round trip: `PageRange::new(start(), end(), hash().clone())` over a whole list.
(`PageRangeSnapshot::iter` does the same per item; its model is `Snapshot.iter`.) -/
def rebuild : List (PR K D) → Except String (List (PR K D))
  | [] => .ok []
  | r :: rs =>
    match PR.new r.start r.end_ r.hash, rebuild rs with
    | .ok r', .ok rs' => .ok (r' :: rs')
    | .error e, _ => .error e
    | _, .error e => .error e

omit [DecidableEq D] in
/-- Rebuilding well-formed ranges from their accessor values never panics and returns ranges equal
to the originals. -/
theorem C16_roundtrip (l : List (PR K D)) (h : PRValid l) : rebuild l = .ok l := by
  induction l with
  | nil => rfl
  | cons r rs ih =>
    have hr : r.start ≤ r.end_ := h r List.mem_cons_self
    rw [rebuild, ih fun x hx => h x (List.mem_cons_of_mem _ hx), PR.new, if_pos hr]

/-- Hence the diff result is the same with rebuilt/owned ranges in either argument position. -/
theorem C16_diff (l p : List (PR K D)) (hl : PRValid l) (hp : PRValid p) :
    ∀ l' p', rebuild l = .ok l' → rebuild p = .ok p' →
      diff l' p' = diff l p ∧ diff l' p = diff l p ∧ diff l p' = diff l p := by
  intro l' p' h1 h2
  cases (C16_roundtrip l hl).symm.trans h1
  cases (C16_roundtrip p hp).symm.trans h2
  exact ⟨rfl, rfl, rfl⟩

omit [DecidableEq D] in
/-- An owned snapshot of well-formed ranges iterates to exactly those ranges, without panicking;
the route through `OwnedPageRange::new` on the accessor values gives the same owned ranges as
`From<PageRange>`, and the two ways of collecting a snapshot agree (also under `==`). -/
theorem C16_snapshot_roundtrip (l : List (PR K D)) (h : PRValid l) :
    (Snapshot.ofRanges l).iter = .ok l ∧
    (∀ r ∈ l, OwnedPR.new r.start r.end_ r.hash = .ok (OwnedPR.ofPR r)) ∧
    Snapshot.ofOwned (l.map OwnedPR.ofPR) = Snapshot.ofRanges l :=
  ⟨Snapshot.iter_ofRanges l h, fun r hr => OwnedPR.new_of_valid r (h r hr), rfl⟩

omit [DecidableEq D] in
/-- `OwnedPageRange::new` rejects exactly `start > end`. -/
theorem C16_owned_constructor (s e : K) (h : D) : (∃ o, OwnedPR.new s e h = .ok o) ↔ s ≤ e :=
  OwnedPR.new_ok_iff s e h

/-- The diff computed from snapshots (either or both sides) is the diff of the borrowed ranges. -/
theorem C16_snapshot_diff (l p : List (PR K D)) (hl : PRValid l) (hp : PRValid p) :
    ∀ l' p', (Snapshot.ofRanges l).iter = .ok l' → (Snapshot.ofRanges p).iter = .ok p' →
      diff l' p' = diff l p ∧ diff l' p = diff l p ∧ diff l p' = diff l p := by
  intro l' p' h1 h2
  cases (Snapshot.iter_ofRanges l hl).symm.trans h1
  cases (Snapshot.iter_ofRanges p hp).symm.trans h2
  exact ⟨rfl, rfl, rfl⟩

omit [LinearOrder K] [DecidableEq D] in
/-- `clone` and `clone_from` (into ANY existing snapshot, longer or shorter) yield the source. -/
theorem C16_snapshot_clone (dst src : Snapshot K D) : src.clone = src ∧ dst.cloneFrom src = src :=
  ⟨rfl, rfl⟩

/-- A snapshot keeps describing the tree as it was when taken: take a snapshot of a tree in ANY
reachable state (hash, serialise, own), then run ANY continuation of upserts — nothing panics, the
snapshot is untouched, and iterating it still yields exactly the page ranges the tree had when the
snapshot was taken (while the tree itself has moved on: its serialisation is unavailable until the
next hash request, C02). -/
theorem C16_snapshot_stable {V : Type} (lvl : K → Nat) (hlvl : ∀ k, lvl k < 255) (hc : HashCfg K V D)
    (s : Served K V D) (hi : Inv lvl hc s.tree) (ops : List (K × V)) :
    ∃ s₁ s₂, s.take hc = .ok s₁ ∧ s₁.upserts lvl ops = .ok s₂ ∧
      s₂.snap = s₁.snap ∧
      (∃ sn, s₂.snap = some sn ∧ sn.iter = .ok (pageRanges hc (s.tree.genRootHash hc))) ∧
      s₁.tree.serialise = .ok (some (pageRanges hc (s.tree.genRootHash hc))) := by
  have hh := hi.genRootHash_hashed
  obtain ⟨s₂, h2, hkeep, -⟩ := Served.upserts_snap lvl hlvl hc ops
    { tree := s.tree.genRootHash hc
      snap := some (Snapshot.ofRanges (pageRanges hc (s.tree.genRootHash hc))) } hh.inv
  -- `hkeep : s₂.snap = s₁.snap`, and `s₁.snap` is `some` of the snapshot by the record above
  refine ⟨_, s₂, Served.take_eq hi, h2, hkeep, ⟨_, hkeep, ?_⟩, hh.serialise⟩
  exact Snapshot.iter_ofRanges _ (pageRanges_valid hc hh.inv.sorted)

/-- Non-vacuity (test): a snapshot of two ranges round-trips. -/
example : (Snapshot.ofRanges ([⟨1, 5, 7⟩, ⟨2, 2, 9⟩] : List (PR Nat Nat))).iter = .ok [⟨1, 5, 7⟩, ⟨2, 2, 9⟩] :=
  rfl

end Mst.Props
