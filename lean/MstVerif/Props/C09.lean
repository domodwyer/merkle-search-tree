/-
C09 — The tree is always an ordered, level-stratified, canonical search tree.
-/
import MstVerif.Proofs.History

namespace Mst.Props
variable {K V D : Type} [LinearOrder K]

/-- At every state reachable by any history (every prefix of a history is a history, so this is
every intermediate state): in-order keys strictly ascending; every page below another has a
strictly lower level, every key sits on the page whose level is the key's own level, and no page
other than the root of an empty tree is empty (`LvRoot`, Defs.lean). -/
theorem C09 (lvl : K → Nat) (hlvl : ∀ k, lvl k < 255) (hc : HashCfg K V D) (ops : List (Op K V)) :
    ∃ t, run lvl hc ops = .ok t ∧ t.root.Sorted ∧ LvRoot lvl t.root := by
  obtain ⟨t, r, i, _⟩ := run_inv lvl hlvl hc ops
  exact ⟨t, r, i.sorted, i.shape⟩

/-- The same for the state a prefix `pre` reaches and the state `pre ++ suf` reaches (`C09` for both
histories; that the first is the state the longer run passes through is `runFrom_append`). -/
theorem C09_prefix (lvl : K → Nat) (hlvl : ∀ k, lvl k < 255) (hc : HashCfg K V D)
    (pre suf : List (Op K V)) :
    ∃ tp t, run lvl hc pre = .ok tp ∧ run lvl hc (pre ++ suf) = .ok t ∧
      tp.root.Sorted ∧ LvRoot lvl tp.root ∧ t.root.Sorted ∧ LvRoot lvl t.root := by
  obtain ⟨tp, rp, sp, lp⟩ := C09 lvl hlvl hc pre
  obtain ⟨t, r, s, l⟩ := C09 lvl hlvl hc (pre ++ suf)
  exact ⟨tp, t, rp, r, sp, lp, s, l⟩

omit [LinearOrder K] in
/-- These conditions force the unique canonical shape for the content: two trees satisfying them
with the same content have the same pages, levels, nodes and links. -/
theorem C09_canonical (lvl : K → Nat) (p q : Pg K V D) (hp : LvRoot lvl p) (hq : LvRoot lvl q)
    (h : p.content = q.content) : p.erase = q.erase :=
  root_unique lvl p q hp hq h

end Mst.Props
