/-
C05 — Anti-entropy always makes progress and converges in bounded rounds.
Replicas are modelled in `Model/Sync.lean` (store + incrementally maintained tree; a pull hashes
both trees, serialises, diffs, fetches the returned ranges from the sender's store, merges and
upserts). Values are identified with their digests. The `…_join` theorems merge by the `⊔` of ANY
join-semilattice, or by peer-wins; those without the suffix are their instances for a linear order.
-/
import MstVerif.Proofs.SyncConv
import MstVerif.Proofs.JoinExample

namespace Mst.Props

/-! ### Any deterministic join (arbitrary join-semilattice), or peer-wins -/

section Join
variable {K V D : Type} [LinearOrder K] [SemilatticeSup V] [DecidableEq V] [DecidableEq D]

/-- For any two replicas with different content, pulling the diff ranges in at least one of the
two directions and merging — by the join `⊔` of ANY join-semilattice on the values, or by
peer-wins — changes the receiver: for every pair of contents, every level structure, whatever cache
state the two trees carry; up to digest collisions. (If `b ← a` changes nothing, the pull `a ← b`
completes a two-way round, which settles a key on which the two differed: so `a` moves there.) -/
theorem C05_progress_join (lvl : K → Nat) (hlvl : ∀ k, lvl k < 255) (hc : HashCfg K V D)
    (hnc : NoCollisions hc) (m : Merge)
    (a b : Replica K V D) (ha : RInv lvl hc a) (hb : RInv lvl hc b) (hne : a.store ≠ b.store) :
    (∃ a' b', pull lvl hc m a b = .ok (a', b') ∧ a'.store ≠ a.store) ∨
    (∃ b' a', pull lvl hc m b a = .ok (b', a') ∧ b'.store ≠ b.store) :=
  pull_progress hlvl hnc m ha hb hne

/-- Non-vacuity of `C05_progress_join` on a NON-linear lattice (`Bits`: bit masks under `|||`, where
`1` and `2` are incomparable): two consistent replicas with different stores, holding incomparable
values at a common key, under a collision-free hasher; hence one of the two pulls changes its
receiver. -/
example : ∃ a b : Replica Nat Bits (List UInt8), RInv Bits.lvl Bits.cfg a ∧ RInv Bits.lvl Bits.cfg b ∧
    a.store = [(1, 1), (5, 1)] ∧ b.store = [(1, 2)] ∧ NoCollisions Bits.cfg ∧
    ((∃ a' b', pull Bits.lvl Bits.cfg .joinMax a b = .ok (a', b') ∧ a'.store ≠ a.store) ∨
     (∃ b' a', pull Bits.lvl Bits.cfg .joinMax b a = .ok (b', a') ∧ b'.store ≠ b.store)) := by
  obtain ⟨a, ha, sa⟩ := Bits.exists_replica [(1, 1), (5, 1)]
  obtain ⟨b, hb, sb⟩ := Bits.exists_replica [(1, 2)]
  -- `sa : a.store = absorbStore .peerWins [] [(1, 1), (5, 1)]`, which evaluates to the list itself
  exact ⟨a, b, ha, hb, sa, sb, Bits.cfg_noCollisions,
    C05_progress_join Bits.lvl Bits.lvl_lt Bits.cfg Bits.cfg_noCollisions .joinMax a b ha hb
      (by rw [sa, sb]; decide)⟩

/-- Repeated two-way sync rounds (as `tests/sync.rs`: b pulls from a, then a pulls from b) never
panic and, after at most as many rounds as there were disagreeing keys, both replicas hold the
same content and report the same root hash; under the join merge — the `⊔` of ANY join-semilattice —
the common content is exactly the pointwise join of the two initial contents.

Why `disagree` bounds the rounds for a general join: a fetched key need not agree after the fetch
(the receiver moves to `x ⊔ y`, which may differ from both `x` and `y`, and one diff is complete only
under the span condition of C07), but a case analysis on the two key spans (`round_agree`,
`Proofs/SyncJoin.lean`) shows that the reverse pull of the same round covers such a key, or that
another disagreeing key is settled. `tools/join_rounds_scan.lean` (from the root of the
verification tree, beside `lean/`) runs the model on all pairs of stores with ≤ 4 keys × values
{absent, 1, 2, 3} (bit masks) × all assignments of 3 levels, and ≤ 5 keys × 2 levels: no pair needs
more than `disagree` rounds (an independent check of the bound, not part of the proof). -/
theorem C05_rounds_join (lvl : K → Nat) (hlvl : ∀ k, lvl k < 255) (hc : HashCfg K V D)
    (hnc : NoCollisions hc) (m : Merge)
    (a b : Replica K V D) (ha : RInv lvl hc a) (hb : RInv lvl hc b)
    (n : Nat) (hn : disagree a.store b.store ≤ n) :
    ∃ a' b', syncRounds lvl hc m n a b = .ok (a', b') ∧ RInv lvl hc a' ∧ RInv lvl hc b' ∧
      a'.store = b'.store ∧
      (a'.tree.genRootHash hc).rootHash = (b'.tree.genRootHash hc).rootHash ∧
      (m = .joinMax → ∀ k, lookupKV k a'.store = joinLookup a.store b.store k) := by
  induction n generalizing a b with
  | zero =>
    have heq : a.store = b.store :=
      (disagree_eq_zero _ _ ha.sorted hb.sorted).1 (Nat.le_zero.1 hn)
    refine ⟨a, b, rfl, ha, hb, heq, congrArg Tree.rootHash (ha.genRootHash_congr hb heq), ?_⟩
    intro _ k
    rw [joinLookup_eq, ← heq, optMax_self]
  | succ n ih =>
    obtain ⟨a₂, b₂, r⟩ := round_spec hlvl m ha hb
    -- a round on equal stores is idle, any other one lowers the count
    have hn' : disagree a₂.store b₂.store ≤ n := by
      by_cases heq : a.store = b.store
      · obtain ⟨e1, e2⟩ := r.idle heq
        rw [e1, e2, (disagree_eq_zero _ _ ha.sorted hb.sorted).2 heq]
        exact Nat.zero_le _
      · exact Nat.le_of_lt_succ (Nat.lt_of_lt_of_le (r.fewer hnc heq) hn)
    obtain ⟨a', b', hrun, ha', hb', heq', hhash, hjoin⟩ := ih a₂ b₂ r.inv_left r.inv_right hn'
    refine ⟨a', b', ?_, ha', hb', heq', hhash, ?_⟩
    · simp only [syncRounds, r.run, hrun]
    · intro hm k
      rw [hjoin hm k, r.join hm k]

/-- Non-vacuity of `C05_rounds_join` on the non-linear lattice `Bits`: the replicas above disagree on
two keys; after two rounds both hold, at the common key, the join `3 = 1 ⊔ 2` that NEITHER held
before, and the key only one of them had. -/
example : ∃ a b a' b' : Replica Nat Bits (List UInt8),
    a.store = [(1, 1), (5, 1)] ∧ b.store = [(1, 2)] ∧ disagree a.store b.store = 2 ∧
    syncRounds Bits.lvl Bits.cfg .joinMax 2 a b = .ok (a', b') ∧ a'.store = b'.store ∧
    lookupKV 1 a'.store = some 3 ∧ lookupKV 5 a'.store = some 1 := by
  obtain ⟨a, ha, sa⟩ := Bits.exists_replica [(1, 1), (5, 1)]
  obtain ⟨b, hb, sb⟩ := Bits.exists_replica [(1, 2)]
  -- as above, `sa` and `sb` give the two stores, since `absorbStore .peerWins [] l` evaluates to `l`
  have hd : disagree a.store b.store = 2 := by rw [sa, sb]; rfl
  obtain ⟨a', b', hrun, -, -, hagree, -, hjoin⟩ :=
    C05_rounds_join Bits.lvl Bits.lvl_lt Bits.cfg Bits.cfg_noCollisions .joinMax a b ha hb 2
      (le_of_eq hd)
  refine ⟨a, b, a', b', sa, sb, hd, hrun, hagree, ?_, ?_⟩
  · rw [hjoin rfl, sa, sb]; rfl
  · rw [hjoin rfl, sa, sb]; rfl

/-- Quiescence: once converged, further rounds exchange nothing (any join, or peer-wins). -/
theorem C05_quiescent_join (lvl : K → Nat) (hlvl : ∀ k, lvl k < 255) (hc : HashCfg K V D) (m : Merge)
    (a b : Replica K V D) (ha : RInv lvl hc a) (hb : RInv lvl hc b) (heq : a.store = b.store) :
    ∃ a' b', syncRound lvl hc m a b = .ok (a', b') ∧ a'.store = a.store ∧ b'.store = b.store := by
  obtain ⟨a₂, b₂, r⟩ := round_spec hlvl m ha hb
  exact ⟨a₂, b₂, r.run, r.idle heq⟩

end Join

/-! ### The max of a linear order (corollaries: a linear order is a join-semilattice with `⊔ = max`) -/

variable {K V D : Type} [LinearOrder K] [LinearOrder V] [DecidableEq D]

/-- On a linear order the join merge of the model keeps the larger value. -/
theorem C05_joinMax_linear (o v : V) :
    Merge.apply .joinMax (some o) v = if o < v then v else o :=
  apply_joinMax_linear o v

/-- For any two replicas with different content, pulling the diff ranges in at least one of the
two directions and merging (join or peer-wins) changes the receiver — for every pair of contents,
every level structure, whatever cache state the two trees carry; up to digest collisions. -/
theorem C05_progress (lvl : K → Nat) (hlvl : ∀ k, lvl k < 255) (hc : HashCfg K V D)
    (hnc : NoCollisions hc) (m : Merge)
    (a b : Replica K V D) (ha : RInv lvl hc a) (hb : RInv lvl hc b) (hne : a.store ≠ b.store) :
    (∃ a' b', pull lvl hc m a b = .ok (a', b') ∧ a'.store ≠ a.store) ∨
    (∃ b' a', pull lvl hc m b a = .ok (b', a') ∧ b'.store ≠ b.store) :=
  C05_progress_join lvl hlvl hc hnc m a b ha hb hne

/-- Repeated two-way sync rounds (as `tests/sync.rs`: b pulls from a, then a pulls from b) never
panic and, after at most as many rounds as there were disagreeing keys, both replicas hold the
same content and report the same root hash; under the join merge the common content is exactly
the join of the two initial contents. -/
theorem C05_rounds (lvl : K → Nat) (hlvl : ∀ k, lvl k < 255) (hc : HashCfg K V D)
    (hnc : NoCollisions hc) (m : Merge)
    (a b : Replica K V D) (ha : RInv lvl hc a) (hb : RInv lvl hc b)
    (n : Nat) (hn : disagree a.store b.store ≤ n) :
    ∃ a' b', syncRounds lvl hc m n a b = .ok (a', b') ∧ RInv lvl hc a' ∧ RInv lvl hc b' ∧
      a'.store = b'.store ∧
      (a'.tree.genRootHash hc).rootHash = (b'.tree.genRootHash hc).rootHash ∧
      (m = .joinMax → ∀ k, lookupKV k a'.store = joinLookup a.store b.store k) :=
  C05_rounds_join lvl hlvl hc hnc m a b ha hb n hn

/-- Quiescence: once converged, further rounds exchange nothing. -/
theorem C05_quiescent (lvl : K → Nat) (hlvl : ∀ k, lvl k < 255) (hc : HashCfg K V D) (m : Merge)
    (a b : Replica K V D) (ha : RInv lvl hc a) (hb : RInv lvl hc b) (heq : a.store = b.store) :
    ∃ a' b', syncRound lvl hc m a b = .ok (a', b') ∧ a'.store = a.store ∧ b'.store = b.store :=
  C05_quiescent_join lvl hlvl hc m a b ha hb heq

/-- The hypotheses are met by every replica state reachable from fresh replicas (see C06_refine);
in particular by the fresh replica. -/
theorem C05_reachable (lvl : K → Nat) (hc : HashCfg K V D) : RInv lvl hc (Replica.empty : Replica K V D) :=
  Replica.empty_inv lvl hc

end Mst.Props

#print axioms Mst.Props.C05_progress_join
#print axioms Mst.Props.C05_rounds_join
#print axioms Mst.Props.C05_quiescent_join
#print axioms Mst.Props.C05_progress
#print axioms Mst.Props.C05_rounds
