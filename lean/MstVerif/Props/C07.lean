/-
C07 — One pull is complete when the peer's key span covers the local span.
-/
import MstVerif.Proofs.DiffTree

namespace Mst.Props
variable {K V D : Type} [LinearOrder K] [DecidableEq D]

/-- If the peer's smallest and largest keys enclose all local keys (`SpanCovers`; vacuously true
for an empty local tree; equal spans included), then every entry the peer holds that the local
tree lacks or holds with a different value digest lies inside one of the returned ranges — for
every pair of hashed real trees, every level structure, every placement of the differing keys,
up to collisions of the page digest. -/
theorem C07 (lvl : K → Nat) (hc : HashCfg K V D) (tL tP : Tree K V D)
    (hL : Hashed lvl hc tL) (hP : Hashed lvl hc tP)
    (hcf : CollisionFree hc (tL.root.allToks hc ++ tP.root.allToks hc))
    (hspan : SpanCovers tL tP)
    (kv : K × V) (hkv : kv ∈ tP.root.content) (hdiff : kv ∉ tL.root.content) :
    ∃ out, diff (pageRanges hc tL) (pageRanges hc tP) = .ok out ∧ Covered kv.1 out :=
  diff_trees_complete lvl hc tL tP hL hP hcf hspan kv hkv hdiff

/-- An empty replica obtains the peer's entire key span in a single diff (no collision hypothesis
needed). -/
theorem C07_empty_local (lvl : K → Nat) (hc : HashCfg K V D) (tL tP : Tree K V D)
    (hL : Hashed lvl hc tL) (hP : Hashed lvl hc tP) (he : tL.root.content = [])
    (a z : K × V) (ha : tP.root.content.head? = some a) (hz : tP.root.content.getLast? = some z) :
    diff (pageRanges hc tL) (pageRanges hc tP) = .ok [(a.1, z.1)] :=
  diff_trees_local_empty lvl hc tL tP hL hP he a z ha hz

-- `hnc` is `NoCollisions hc` (Proofs/Sync.lean) written out; `perfectCfg_noCollisions` meets it.
/-- The same for every pair of HISTORIES (any order, overwrites, intermediate hash requests), each
followed by the hash request serialisation needs: the diff of the two real serialisations covers
every entry of the peer's final map that the local final map lacks or holds with another digest. -/
theorem C07_histories (lvl : K → Nat) (hlvl : ∀ k, lvl k < 255) (hc : HashCfg K V D)
    (hnc : ∀ p q : Pg K V D, CollisionFree hc (p.allToks hc ++ q.allToks hc))
    (opsL opsP : List (Op K V))
    (hspan : ∀ x ∈ (finalContent opsL).map Prod.fst,
      (∃ a ∈ (finalContent opsP).map Prod.fst, a ≤ x) ∧ (∃ b ∈ (finalContent opsP).map Prod.fst, x ≤ b))
    (kv : K × V) (hkv : kv ∈ finalContent opsP) (hdiff : kv ∉ finalContent opsL) :
    ∃ tL tP lL lP out, run lvl hc (opsL ++ [.hash]) = .ok tL ∧ run lvl hc (opsP ++ [.hash]) = .ok tP ∧
      tL.serialise = .ok (some lL) ∧ tP.serialise = .ok (some lP) ∧
      diff lL lP = .ok out ∧ Covered kv.1 out := by
  obtain ⟨tL, rL, hL, cL⟩ := hashed_of_run lvl hlvl hc opsL
  obtain ⟨tP, rP, hP, cP⟩ := hashed_of_run lvl hlvl hc opsP
  have hsp : SpanCovers tL tP := by
    unfold SpanCovers Pg.keys
    rwa [cL, cP]
  obtain ⟨out, h1, h2⟩ := C07 lvl hc tL tP hL hP (hnc _ _) hsp kv (cP ▸ hkv) (cL ▸ hdiff)
  exact ⟨tL, tP, _, _, out, rL, rP, hL.serialise, hP.serialise, h1, h2⟩

end Mst.Props
