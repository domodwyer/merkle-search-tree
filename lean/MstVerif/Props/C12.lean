/-
C12 — Diff output is sorted, disjoint, well-formed and confined to the peer's span.
-/
import MstVerif.Proofs.DiffTree

namespace Mst.Props
variable {K V D : Type} [LinearOrder K] [DecidableEq D]

/-- For ARBITRARY page-range lists with `start ≤ end`: the returned ranges are ascending and
pairwise non-overlapping, not even sharing an end point (`a.end < b.start`), each with
`start ≤ end`. -/
theorem C12_list (loc peer : List (PR K D)) (hl : PRValid loc) (hp : PRValid peer) :
    ∃ out, diff loc peer = .ok out ∧ out.Pairwise (fun a b => a.2 < b.1) ∧ ∀ r ∈ out, r.1 ≤ r.2 := by
  obtain ⟨out, h1, h2, h3, _⟩ := diff_total loc peer hp
  exact ⟨out, h1, h2, h3⟩

/-- For page ranges taken from real trees: additionally every range lies within the peer's
smallest and largest key, starts at a key the peer holds and ends at a key held by the peer or the
local tree. -/
theorem C12_tree (lvl : K → Nat) (hc : HashCfg K V D) (tL tP : Tree K V D)
    (hL : Hashed lvl hc tL) (hP : Hashed lvl hc tP) :
    ∃ out, diff (pageRanges hc tL) (pageRanges hc tP) = .ok out ∧
      out.Pairwise (fun a b => a.2 < b.1) ∧ (∀ r ∈ out, r.1 ≤ r.2) ∧
      ∀ r ∈ out, r.1 ∈ tP.root.keys ∧ (r.2 ∈ tP.root.keys ∨ r.2 ∈ tL.root.keys) ∧
        (∀ a z : K × V, tP.root.content.head? = some a → tP.root.content.getLast? = some z →
          a.1 ≤ r.1 ∧ r.2 ≤ z.1) := by
  obtain ⟨out, h1, h2, h3⟩ := diff_trees_ok lvl hc tL tP hL hP
  exact ⟨out, h1, h2, h3, diff_trees_confined lvl hc tL tP hL hP out h1⟩

end Mst.Props
