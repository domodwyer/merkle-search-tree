/-
C17 — Traversal APIs agree and honour the visitor protocol.
-/
import MstVerif.Proofs.Traverse
import MstVerif.Proofs.Protocol

namespace Mst.Props
variable {K V D : Type}

/-- The node iterator yields exactly the nodes an in-order traversal visits (its `visit_node`
callbacks), in the same order — for EVERY tree, no invariant needed; the iterator never trips its
assertion. -/
theorem C17_iter (p : Pg K V D) :
    iterAll p = .ok ((tracePg false p).filterMap Event.node?) := by
  rw [trace_visitNodes]; exact iterAll_eq_content p

/-- For every visitor (any state machine answering `false` at any callback), the callbacks it
receives are exactly the full traversal cut right after the first callback that returned `false`:
the traversal stops at once and what was seen is a prefix of the full traversal. -/
theorem C17_stop {σ : Type} (vis : σ → Event K V D → σ × Bool) (p : Pg K V D) (s : σ) :
    runPg vis false p s = foldUntil vis s (tracePg false p) :=
  runPg_eq_foldUntil vis false p s

/-- In particular, for the recording visitor asked to stop at callback index `n`: it has seen
exactly the first `n+1` callbacks of the full traversal. -/
theorem C17_stop_prefix (n : Nat) (p : Pg K V D) :
    runRecorded (some n) p = (tracePg false p).take (n + 1) :=
  runRecorded_eq_take (some n) p

/-- The nesting protocol is the definition of the full traversal, stated outright:
page entry, then per key: pre-visit, the key's lower subtree (not flagged), visit, post-visit;
then page exit; then — flagged as reached through a high-page link — the high page. -/
theorem C17_protocol_page (high : Bool) (L : Nat) (c : Option D) (n : Nd K V D) (h : Pg K V D) :
    tracePg high (.some L c n h) =
      [Event.visitPage L c n.length high] ++ traceNd n ++ [Event.postPage L] ++ tracePg true h :=
  tracePg_some high L c n h

theorem C17_protocol_node (lt : Pg K V D) (k : K) (v : V) (tl : Nd K V D) :
    traceNd (.cons lt k v tl) =
      [Event.preNode k v] ++ tracePg false lt ++ [Event.visitNode k v, Event.postNode k v] ++ traceNd tl :=
  traceNd_cons lt k v tl

/-- The nesting protocol as an independent grammar (`IsPageTrace`, Protocol.lean): the full callback
sequence of every traversal is: page entry (flagged iff reached through a high-page link), then
for each of the page's keys pre-visit / the key's lower subtree (an unflagged page trace, if any) /
visit / post-visit, then page exit, then the flagged trace of the high page, if any. -/
theorem C17_protocol (high : Bool) (p : Pg K V D) : IsOptPageTrace high (tracePg high p) :=
  tracePg_wellformed high p

/-- The visitor most users write: it implements only the required `visit_node` (collecting the
nodes) and relies on the trait's DEFAULT implementations — no-ops returning `true` — for
`pre_visit_node`, `post_visit_node`, `visit_page` and `post_visit_page`. -/
def minimalVis : List (K × V) → Event K V D → List (K × V) × Bool :=
  fun acc e => (match Event.node? e with | some kv => acc ++ [kv] | none => acc, true)

theorem foldUntil_minimalVis (acc : List (K × V)) (l : List (Event K V D)) :
    foldUntil minimalVis acc l = (acc ++ l.filterMap Event.node?, true) := by
  induction l generalizing acc with
  | nil => simp [foldUntil]
  | cons e es ih =>
    unfold foldUntil
    cases h : Event.node? e with
    | none => simp [minimalVis, h, ih]
    | some kv => simp [minimalVis, h, ih, List.append_assoc]

/-- Such a visitor is never stopped early and sees exactly the in-order nodes of the tree — the same
sequence the node iterator yields — for every tree. -/
theorem C17_default_visitor (p : Pg K V D) :
    runPg minimalVis false p [] = (p.content, true) ∧ iterAll p = .ok p.content := by
  refine ⟨?_, iterAll_eq_content p⟩
  rw [runPg_eq_foldUntil, foldUntil_minimalVis, List.nil_append, trace_visitNodes]

/-- Non-vacuity (test): a two-level tree with a high page; stop index 3. -/
example :
    runRecorded (some 3)
      (Pg.some 1 none (.cons (.some 0 none (.cons .none 1 10 .nil) .none) 2 20 .nil)
        (.some 0 none (.cons .none 3 30 .nil) .none) : Pg Nat Nat Nat)
      = [.visitPage 1 none 1 false, .preNode 2 20, .visitPage 0 none 1 false, .preNode 1 10] :=
  rfl

end Mst.Props
