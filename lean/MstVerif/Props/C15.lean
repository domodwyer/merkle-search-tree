/-
C15 — No operation on a tree panics, for any history.
The model is the debug-assertions-ON semantics: every `panic!/unwrap/expect/assert!/debug_assert!`
site of the modelled Rust is an `Except.error`; `= .ok _` therefore says none of them is reachable
(release builds have a subset of these sites).
-/
import MstVerif.Proofs.DiffTree

namespace Mst.Props
variable {K V D : Type} [LinearOrder K] [DecidableEq D]

/-- Upserting and hashing: every history runs to completion without tripping an assertion. -/
theorem C15_history (lvl : K → Nat) (hlvl : ∀ k, lvl k < 255) (hc : HashCfg K V D)
    (ops : List (Op K V)) : ∃ t, run lvl hc ops = .ok t := by
  obtain ⟨t, r, _, _⟩ := run_inv lvl hlvl hc ops
  exact ⟨t, r⟩

/-- Serialising, at every reachable state: `None` without panic before a hash request, and after a
hash request it always succeeds (the `expect("… prior hash regeneration")` and the
`min_key`/`max_key` unwraps are unreachable). -/
theorem C15_serialise (lvl : K → Nat) (hlvl : ∀ k, lvl k < 255) (hc : HashCfg K V D)
    (ops : List (Op K V)) :
    (∃ t r, run lvl hc ops = .ok t ∧ t.serialise = .ok r) ∧
    (∃ t l, run lvl hc (ops ++ [.hash]) = .ok t ∧ t.serialise = .ok (some l)) := by
  constructor
  · obtain ⟨t, r, i, _⟩ := run_inv lvl hlvl hc ops
    cases hrh : t.rootHash with
    | none => exact ⟨t, none, r, serialise_none t hrh⟩
    | some d =>
      obtain ⟨l, hl, _⟩ := serialise_spec i (by simp [hrh])
      exact ⟨t, some l, r, hl⟩
  · obtain ⟨t, r, hh, _⟩ := hashed_of_run lvl hlvl hc ops
    exact ⟨t, pageRanges hc t, r, hh.serialise⟩

/-- Iterating: the node iterator never trips `assert!(n.lt_pointer().is_some())` — on any tree. -/
theorem C15_iter (p : Pg K V D) : ∃ l, iterAll p = .ok l := ⟨_, iterAll_eq_content p⟩

/-- Traversing is a total function in the model (`tracePg`/`runPg` cannot fail); nothing to prove
beyond their definitions being total, which Lean's termination checker established. -/
theorem C15_traverse {σ : Type} (vis : σ → Event K V D → σ × Bool) (p : Pg K V D) (s : σ) :
    ∃ r, runPg vis false p s = r := ⟨_, rfl⟩

/-- Diffing real trees never panics. -/
theorem C15_diff (lvl : K → Nat) (hc : HashCfg K V D) (tL tP : Tree K V D)
    (hL : Hashed lvl hc tL) (hP : Hashed lvl hc tP) :
    ∃ out, diff (pageRanges hc tL) (pageRanges hc tP) = .ok out := by
  obtain ⟨out, h, _⟩ := diff_trees_ok lvl hc tL tP hL hP
  exact ⟨out, h⟩

end Mst.Props
