/-
C13 — Diff is total on untrusted page-range input.
(The machine stack is outside any functional model: see `C13_partial` note below and DESIGN §9, F2.)
-/
import MstVerif.Proofs.DiffDepth
import MstVerif.Proofs.DepthTree

namespace Mst.Props
variable {K D : Type} [LinearOrder K] [DecidableEq D]

/-- For ANY two finite lists of page ranges that each satisfy `start ≤ end` — any length, any
nesting, any order, arbitrary digests — `diff` terminates (the fuel, linear in the peer length,
never runs out), trips none of the `assert!`/`debug_assert!` sites of `diff.rs`, `range_list.rs`,
`diff_builder.rs`, and returns ranges that are ascending, pairwise disjoint without shared end
points, each with `start ≤ end`, whose bounds all occurred as bounds in the input.
`C13_partial`: everything the property states except stack boundedness, which no functional model
can express; the implementation's stack use is decided by the depth ladder replay (known finding F2). -/
theorem C13_partial (loc peer : List (PR K D)) (hl : PRValid loc) (hp : PRValid peer) :
    ∃ out, diff loc peer = .ok out ∧ DRChain out ∧ DRValid out ∧
      (∀ r ∈ out, IsBound r.1 (prBounds (loc ++ peer)) ∧ IsBound r.2 (prBounds (loc ++ peer))) :=
  diff_total loc peer hp

/-- The page-range constructor rejects exactly the inverted bounds (`assert!(start <= end)`), so
"each satisfies start ≤ end" is precisely what a caller who got its ranges through the public
constructor can rely on. -/
theorem C13_constructor (s e : K) (h : D) : (∃ r, PR.new s e h = .ok r) ↔ s ≤ e :=
  PR_new_ok_iff s e h

/-! ### The stack, as far as a functional model can carry it
`diffDepth` (Model/DiffDepth.lean) is the same walk instrumented with the number of nested
`recurse_subtree → recurse_diff` frame pairs — one Rust stack frame pair per unit. -/

/-- The instrumented walk IS the walk: forgetting the depth gives exactly `recurseDiff`. -/
theorem C13_depth_refines (fuel : Nat) (root : PR K D) (lastP : Option (PR K D))
    (peer loc : List (PR K D)) (b : Builder K) :
    (match recurseDiffD fuel root lastP peer loc b with
     | .error e => Except.error e
     | .ok (p, l, b', _) => .ok (p, l, b')) = recurseDiff fuel root lastP peer loc b :=
  (forgetDepth_recurseD fuel).1 root lastP peer loc b

/-- Stack use is bounded by the input: the nesting depth never exceeds the length of the peer list. -/
theorem C13_depth_le_input (loc peer : List (PR K D)) (hl : PRValid loc) (hp : PRValid peer) :
    ∃ d, diffDepth loc peer = .ok d ∧ d ≤ peer.length :=
  diffDepth_total loc peer hp

/-- … and that bound is attained: a strictly nested chain of `n` ranges drives the recursion to
depth `n`. So NO fixed stack suffices for "however deeply nested" untrusted lists: the clause of
the property about the call stack is false of the algorithm as written (known finding F2); the
implementation-side replay shows the overflow at depth ≈ 12 000 on a 2 MiB stack. -/
theorem C13_depth_chain (n : Nat) (h₁ h₂ : D) (hne : h₁ ≠ h₂) :
    diffDepth (chain n h₁) (chain n h₂) = .ok n := by
  cases n with
  | zero => rfl
  | succ m =>
    rw [chain_eq_chainFrom, chain_eq_chainFrom]
    obtain ⟨b', hb'⟩ := chain_walk (m + 1) hne 0 (m + 1)
      { start := 0, end_ := 2 * (m + 1) - 0, hash := h₂ } none Builder.empty
      (Nat.zero_add _).le (le_refl _) (le_refl _)
    -- `diffDepth_iff` wants the peer list as `root :: rest` with that very `root`: unfold the first
    -- link (whose end is spelt `2 * (m + 1) - 0` by `chainFrom_succ`)
    rw [chainFrom_succ (m + 1) h₂] at hb' ⊢
    exact diffDepth_iff.2 ⟨_, _, _, hb'⟩

/-- The sharp form of the bound: the recursion is driven by NESTING, not by length. The depth never
exceeds the length of the longest chain `r₁ ⊇ r₂ ⊇ …` of nested ranges occurring in order in the peer
list — for any local list, any length. -/
theorem C13_depth_le_nesting (loc peer : List (PR K D)) (n : Nat)
    (hn : ∀ c : List (PR K D), c.Sublist peer → IsNestChain c → c.length ≤ n)
    (d : Nat) (hd : diffDepth loc peer = .ok d) : d ≤ n :=
  diffDepth_le_nesting hn hd

/-- In particular LONG FLAT lists are safe at every length: if no range of the peer list contains a
later one, the walk never nests more than one `recurse_subtree` frame pair, however long the two
lists are (the stack probes replay such lists of 10⁵ ranges on the implementation). -/
theorem C13_depth_flat (loc peer : List (PR K D))
    (hflat : peer.Pairwise (fun a b => a.supersetOf b = false))
    (d : Nat) (hd : diffDepth loc peer = .ok d) : d ≤ 1 := by
  refine diffDepth_le_nesting (n := 1) (fun c hc hch => ?_) hd
  match c, hc, hch with
  | [], _, _ => exact Nat.zero_le _
  | [_], _, _ => exact Nat.le_refl _
  | a :: b :: r, hc, hch =>
    have hab : a.supersetOf b = true := (List.isChain_cons_cons.1 hch).1
    have hflat' := (List.pairwise_cons.1 (hflat.sublist hc)).1 b List.mem_cons_self
    rw [hab] at hflat'
    cases hflat'

/-- Non-vacuity of `C13_depth_flat` (test): a flat peer list of three disjoint ranges. -/
example : ([⟨1, 2, 7⟩, ⟨4, 5, 7⟩, ⟨7, 9, 7⟩] : List (PR Nat Nat)).Pairwise (fun a b => a.supersetOf b = false) := by
  decide

/-- Real trees are safe: diffing against the serialisation of a real (hashed) peer tree recurses at
most (root level + 1) deep — whatever the local list is. Levels are `u8`, and at most 64 for
digests of up to 32 bytes (two per leading zero byte: `level_le`), so trees produced by this library
can never exhaust the stack; only untrusted, artificially nested input can (F2). -/
theorem C13_depth_real_tree {V : Type} (lvl : K → Nat) (hc : HashCfg K V D) (tP : Tree K V D)
    (hP : Hashed lvl hc tP) (L : Nat) (hL : tP.root.level? = some L)
    (loc : List (PR K D)) (d : Nat) (hd : diffDepth loc (pageRanges hc tP) = .ok d) : d ≤ L + 1 :=
  diffDepth_le_nesting (pageRanges_nest_chain_le hP.inv.shape hP.inv.sorted hL) hd

/-- Non-vacuity (test): a nested, unordered, duplicated pair of lists. -/
example : ∃ out, diff ([⟨3, 9, 1⟩, ⟨1, 20, 2⟩, ⟨3, 9, 1⟩] : List (PR Nat Nat))
    [⟨0, 30, 5⟩, ⟨2, 10, 7⟩, ⟨4, 4, 1⟩, ⟨2, 10, 7⟩] = .ok out := by
  exact (C13_partial _ _ (by unfold PRValid; decide) (by unfold PRValid; decide)).imp fun _ h => h.1

end Mst.Props
