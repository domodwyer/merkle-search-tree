/-
C08 — Replicas with identical content exchange nothing.
-/
import MstVerif.Proofs.DiffTree

namespace Mst.Props
variable {K V D : Type} [LinearOrder K] [DecidableEq D]

/-- Two hashed real trees with the same content: the diff is empty (in either direction, by
symmetry of the hypothesis). -/
theorem C08 (lvl : K → Nat) (hc : HashCfg K V D) (tL tP : Tree K V D)
    (hL : Hashed lvl hc tL) (hP : Hashed lvl hc tP) (h : tL.root.content = tP.root.content) :
    diff (pageRanges hc tL) (pageRanges hc tP) = .ok [] ∧
    diff (pageRanges hc tP) (pageRanges hc tL) = .ok [] :=
  ⟨diff_trees_same_content lvl hc tL tP hL hP h, diff_trees_same_content lvl hc tP tL hP hL h.symm⟩

/-- However each tree's history of upserts and hash requests looked: any two histories with the
same last-write-wins map, each followed by the hash request serialisation needs. -/
theorem C08_histories (lvl : K → Nat) (hlvl : ∀ k, lvl k < 255) (hc : HashCfg K V D)
    (ops₁ ops₂ : List (Op K V)) (h : ∀ k, lastWrite ops₁ k = lastWrite ops₂ k) :
    ∃ t₁ t₂, run lvl hc (ops₁ ++ [.hash]) = .ok t₁ ∧ run lvl hc (ops₂ ++ [.hash]) = .ok t₂ ∧
      t₁.serialise = .ok (some (pageRanges hc t₁)) ∧ t₂.serialise = .ok (some (pageRanges hc t₂)) ∧
      diff (pageRanges hc t₁) (pageRanges hc t₂) = .ok [] ∧
      diff (pageRanges hc t₂) (pageRanges hc t₁) = .ok [] := by
  obtain ⟨t₁, r₁, h₁, c₁⟩ := hashed_of_run lvl hlvl hc ops₁
  obtain ⟨t₂, r₂, h₂, c₂⟩ := hashed_of_run lvl hlvl hc ops₂
  exact ⟨t₁, t₂, r₁, r₂, h₁.serialise, h₂.serialise,
    C08 lvl hc t₁ t₂ h₁ h₂ (by rw [c₁, c₂, (finalContent_eq_iff ops₁ ops₂).2 h])⟩

/-- A diff against an empty peer is empty — for ANY local list. -/
theorem C08_empty_peer (loc : List (PR K D)) : diff loc ([] : List (PR K D)) = .ok [] :=
  diff_empty_peer loc

end Mst.Props
