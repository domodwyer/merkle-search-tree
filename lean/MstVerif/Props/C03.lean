/-
C03 — Trees with different content have different root hashes (up to digest collisions).
-/
import MstVerif.Proofs.History

namespace Mst.Props
variable {K V D : Type}

/-- Equal (cache-free) root digests imply equal content, for any two trees whose page pre-images
are collision free under the page hasher — i.e. exactly "up to collisions of the page digest"
(`CollisionFree`, Hash.lean). No shape hypothesis is needed: the induction covers a difference at
any position (node key, value digest, lt-child or high-page subtree).
CAVEAT made visible by the hypothesis: `encodeTok` has no length prefixes, so two *different*
pre-images can have the *same* byte stream (variable-length keys with adversarial value digests);
`CollisionFree` counts that as a collision too. -/
theorem C03 (hc : HashCfg K V D) (p q : Pg K V D)
    (hcf : CollisionFree hc (p.allToks hc ++ q.allToks hc))
    (h : p.trueHash hc = q.trueHash hc) : p.content = q.content :=
  merkle_inj hc p q hcf h

/-- The caveat, machine-checked (a test, not part of the claim): with the library's raw byte
encoding (keys, value digests and page digests written back to back, no length prefixes) two
DIFFERENT page pre-images can have the SAME byte stream — here key `[1]` with value digest `[2,3]`
versus key `[1,2]` with value digest `[3]`. No hash function can tell them apart, which is why
`CollisionFree` is stated on pre-images rather than on byte streams. (With the fixed digest width
of a real tree this needs variable-length keys and adversarially chosen value digests.) -/
example :
    let hc : HashCfg (List UInt8) (List UInt8) (List UInt8) := { kb := id, vb := id, db := id, h := id }
    ([(none, [1], [2, 3])], none) ≠ (([(none, [1, 2], [3])], none) : PageTok (List UInt8) (List UInt8) (List UInt8)) ∧
    encodeTok hc ([(none, [1], [2, 3])], none) = encodeTok hc ([(none, [1, 2], [3])], none) := by
  decide

variable [LinearOrder K]

/-- For trees reached by histories: if the last-write-wins maps differ in any key or value digest,
the root hashes reported after a hash request differ. -/
theorem C03_histories (lvl : K → Nat) (hlvl : ∀ k, lvl k < 255) (hc : HashCfg K V D)
    (ops₁ ops₂ : List (Op K V)) (k : K) (hdiff : lastWrite ops₁ k ≠ lastWrite ops₂ k) :
    ∃ t₁ t₂, run lvl hc ops₁ = .ok t₁ ∧ run lvl hc ops₂ = .ok t₂ ∧
      (CollisionFree hc (t₁.root.allToks hc ++ t₂.root.allToks hc) →
        (t₁.genRootHash hc).rootHash ≠ (t₂.genRootHash hc).rootHash) := by
  obtain ⟨t₁, r₁, i₁, c₁⟩ := run_inv lvl hlvl hc ops₁
  obtain ⟨t₂, r₂, i₂, c₂⟩ := run_inv lvl hlvl hc ops₂
  refine ⟨t₁, t₂, r₁, r₂, fun hcf heq => hdiff ?_⟩
  rw [i₁.genRootHash_rootHash, i₂.genRootHash_rootHash] at heq
  have hcont := merkle_inj hc _ _ hcf heq
  rw [c₁, c₂] at hcont
  exact (finalContent_eq_iff ops₁ ops₂).1 hcont k

/-- In particular adding a key, or changing one value, always changes the root hash. -/
theorem C03_one_upsert (lvl : K → Nat) (hlvl : ∀ k, lvl k < 255) (hc : HashCfg K V D)
    (ops : List (Op K V)) (k : K) (v : V) (hnew : lastWrite ops k ≠ some v) :
    ∃ t₁ t₂, run lvl hc ops = .ok t₁ ∧ run lvl hc (ops ++ [.ups k v]) = .ok t₂ ∧
      (CollisionFree hc (t₁.root.allToks hc ++ t₂.root.allToks hc) →
        (t₁.genRootHash hc).rootHash ≠ (t₂.genRootHash hc).rootHash) := by
  apply C03_histories lvl hlvl hc ops (ops ++ [Op.ups k v]) k
  rwa [lastWrite_snoc_ups, if_pos rfl]

end Mst.Props
