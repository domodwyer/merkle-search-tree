/-
C06 — Under any schedule of writes and pulls, replicas converge once writes stop.
Scope notes (DESIGN §7 C06 for (i); §12.3, row C06, for the rest): (i) join merge — under peer-wins
with ≥ 3 replicas a fair pull sequence that never converges exists at the store level whatever the
tree does, so convergence under every continuation is not a property the library could have for
that merge (two-replica peer-wins is C05); (ii) pulls are atomic in `C06_refine/safe/live`; the
`…_stale` theorems below allow pulls split into a plan and a later fetch of stale or arbitrary
ranges.
(iii) The join is the `⊔` of ANY join-semilattice on the values (`…_join` theorems,
`[SemilatticeSup V]`). The theorems without the suffix are their instances for the max of a linear
order; they differ in one clause only: in a linear order the join of everything written to a
key is HELD by some replica at every step, whereas for a general join it is the LEAST UPPER BOUND of
what the replicas hold (two replicas writing the incomparable values 1 and 2 hold 1 and 2 while the
join is 3 — `C06_join_not_held_before_pulls`).
-/
import MstVerif.Proofs.SyncN
import MstVerif.Proofs.PeerWins3
import MstVerif.Proofs.SyncStale
import MstVerif.Proofs.JoinExample

namespace Mst.Props

/-! ### Any deterministic join (arbitrary join-semilattice) -/

section Join
variable {K V D : Type} [LinearOrder K] [SemilatticeSup V] [DecidableEq V] [DecidableEq D]

/-- Refinement, for ANY number of replicas, ANY schedule over {write, pull}, either merge rule (the
join of any join-semilattice, or peer-wins): no operation panics and every replica's incrementally
maintained tree satisfies the tree invariant and mirrors its store at every step. -/
theorem C06_refine_join (lvl : K → Nat) (hlvl : ∀ k, lvl k < 255) (hc : HashCfg K V D) (m : Merge)
    (n : Nat) (ops : List (SyncOp K V)) :
    ∃ rs, syncRun lvl hc m (freshReplicas n : List (Replica K V D)) ops = .ok rs ∧
      rs.length = n ∧ ∀ r ∈ rs, RInv lvl hc r := by
  obtain ⟨rs, h1, h2, h3⟩ := syncRun_inv hlvl m (freshReplicas_inv lvl hc n) ops
  exact ⟨rs, h1, h2.trans List.length_replicate, h3⟩

/-- Safety under the join merge, ANY join-semilattice: with `written ops k` the join (`⊔`) of
everything written to `k` and `optLe` the semilattice order (absent below everything),
(1) every replica holds at most that join; (2) nothing written is lost — the join of everything
written is the LEAST upper bound of what the replicas hold; (3) nothing is invented — every stored
value is generated by written values (`GenBy`: it is the least upper bound of the written values
below it, and some written value is below it). -/
theorem C06_safe_join (lvl : K → Nat) (hlvl : ∀ k, lvl k < 255) (hc : HashCfg K V D)
    (n : Nat) (ops : List (SyncOp K V))
    (hw : ∀ op ∈ ops, match op with | .write r _ _ => r < n | .pull i j => i < n ∧ j < n) :
    ∃ rs, syncRun lvl hc .joinMax (freshReplicas n : List (Replica K V D)) ops = .ok rs ∧ rs.length = n ∧
      (∀ r ∈ rs, ∀ k, optLe (lookupKV k r.store) (written ops k)) ∧
      (∀ k u, (∀ r ∈ rs, optLe (lookupKV k r.store) u) → optLe (written ops k) u) ∧
      (∀ r ∈ rs, ∀ k x, lookupKV k r.store = some x → GenBy ops k x) :=
  syncRun_safe_join lvl hlvl hc n ops hw

/-- Liveness, ANY join-semilattice: once writes stop, every continuation that keeps pulling between
all pairs (`n·|ops| + 1` sweeps, each containing every ordered pair, in any order, with any extra
pulls) reaches a state where all replicas hold exactly the join of everything ever written and
report the same root hash. -/
theorem C06_live_join (lvl : K → Nat) (hlvl : ∀ k, lvl k < 255) (hc : HashCfg K V D)
    (hnc : NoCollisions hc) (n : Nat) (ops : List (SyncOp K V))
    (hw : ∀ op ∈ ops, match op with | .write r _ _ => r < n | .pull i j => i < n ∧ j < n)
    (sweeps : List (List (SyncOp K V))) (hs : ∀ s ∈ sweeps, IsSweep n s)
    (hlen : n * ops.length + 1 ≤ sweeps.length) :
    ∃ rs, syncRun lvl hc .joinMax (freshReplicas n : List (Replica K V D)) (ops ++ sweeps.flatten) = .ok rs ∧
      rs.length = n ∧
      (∀ r ∈ rs, ∀ k, lookupKV k r.store = written ops k) ∧
      (∀ r₁ ∈ rs, ∀ r₂ ∈ rs, r₁.store = r₂.store ∧
        (r₁.tree.genRootHash hc).rootHash = (r₂.tree.genRootHash hc).rootHash) := by
  obtain ⟨rs₀, hrun₀, h₀⟩ := run_good hlvl hc ops n fun r k v h => hw _ h
  obtain ⟨rs, hrun, h⟩ := sweeps_converge hlvl hnc h₀ sweeps hs hlen
  refine ⟨rs, ?_, h⟩
  rw [syncRun_append, hrun₀]
  exact hrun

/- Stale in-flight snapshots (scope note (ii)): `SyncOp2` (Model/Sync.lean) adds `hash r` and
`fetchStale recv send ranges`, a fetch of ARBITRARY ranges, which subsumes every pull planned on
stale snapshots. -/

/-- Refinement with stale fetches, any merge rule (any join, or peer-wins). -/
theorem C06_refine_stale_join (lvl : K → Nat) (hlvl : ∀ k, lvl k < 255) (hc : HashCfg K V D) (m : Merge)
    (rs : List (Replica K V D)) (hrs : ∀ r ∈ rs, RInv lvl hc r) (ops : List (SyncOp2 K V)) :
    ∃ rs', syncRun2 lvl hc m rs ops = .ok rs' ∧ rs'.length = rs.length ∧ ∀ r ∈ rs', RInv lvl hc r :=
  syncRun2_inv hlvl m hrs ops

/-- Safety with stale fetches, ANY join-semilattice: nothing is lost (the join of everything
written is the least upper bound of the stores), nothing invented. -/
theorem C06_safe_stale_join (lvl : K → Nat) (hlvl : ∀ k, lvl k < 255) (hc : HashCfg K V D)
    (n : Nat) (ops : List (SyncOp2 K V))
    (hw : ∀ op ∈ ops, match op with | .write r _ _ => r < n | _ => True) :
    ∃ rs, syncRun2 lvl hc .joinMax (freshReplicas n : List (Replica K V D)) ops = .ok rs ∧ rs.length = n ∧
      (∀ r ∈ rs, RInv lvl hc r) ∧
      (∀ r ∈ rs, ∀ k, optLe (lookupKV k r.store) (written2 ops k)) ∧
      (∀ k u, (∀ r ∈ rs, optLe (lookupKV k r.store) u) → optLe (written2 ops k) u) ∧
      (∀ r ∈ rs, ∀ k x, lookupKV k r.store = some x → GenBy (plainOf ops) k x) :=
  syncRun2_safe_join lvl hlvl hc n ops hw

/-- Liveness after ANY schedule including stale fetches, ANY join-semilattice: enough fair sweeps
of fresh pulls bring every replica to the join of everything written, with equal root hashes. -/
theorem C06_live_stale_join (lvl : K → Nat) (hlvl : ∀ k, lvl k < 255) (hc : HashCfg K V D)
    (hnc : NoCollisions hc) (n : Nat) (ops : List (SyncOp2 K V))
    (hw : ∀ op ∈ ops, match op with | .write r _ _ => r < n | _ => True)
    (sweeps : List (List (SyncOp K V))) (hs : ∀ s ∈ sweeps, IsSweep n s)
    (hlen : n * countWrites2 ops + 1 ≤ sweeps.length) :
    ∃ rs₀ rs, syncRun2 lvl hc .joinMax (freshReplicas n : List (Replica K V D)) ops = .ok rs₀ ∧
      syncRun lvl hc .joinMax rs₀ sweeps.flatten = .ok rs ∧ rs.length = n ∧
      (∀ r ∈ rs, ∀ k, lookupKV k r.store = written2 ops k) ∧
      (∀ r₁ ∈ rs, ∀ r₂ ∈ rs, r₁.store = r₂.store ∧
        (r₁.tree.genRootHash hc).rootHash = (r₂.tree.genRootHash hc).rootHash) := by
  obtain ⟨rs₀, hrun₀, h₀⟩ := run2_good hlvl hc ops n fun r k v h => hw _ h
  rw [countWrites2_eq] at hlen
  obtain ⟨rs, hrun, hl, hlk, heq⟩ := sweeps_converge hlvl hnc h₀ sweeps hs hlen
  exact ⟨rs₀, rs, hrun₀, hrun, hl, fun r hr k => (hlk r hr k).trans (written2_eq ops k).symm, heq⟩

end Join

/-! ### Non-vacuity on a NON-linear lattice (`Bits`: bit masks under `|||`; 1 and 2 incomparable) -/

/-- two replicas write the incomparable values 1 and 2 to key 1 (and replica 0 also key 5) -/
def joinWrites : List (SyncOp Nat Bits) := [.write 0 1 1, .write 1 1 2, .write 0 5 1]

def joinSweep : List (SyncOp Nat Bits) := [.pull 0 1, .pull 1 0]

/-- every operation of `joinWrites` is a write addressing one of the two replicas: from this the
examples below get the side condition `hw` of `C06_safe_join` and `C06_live_join` -/
theorem joinWrites_ok : ∀ op ∈ joinWrites, ∃ r k v, op = SyncOp.write r k v ∧ r < 2 := by
  intro op hop
  simp only [joinWrites, List.mem_cons, List.not_mem_nil, or_false] at hop
  rcases hop with rfl | rfl | rfl
  · exact ⟨0, 1, 1, rfl, by decide⟩
  · exact ⟨1, 1, 2, rfl, by decide⟩
  · exact ⟨0, 5, 1, rfl, by decide⟩

theorem joinSweep_isSweep : IsSweep 2 joinSweep :=
  .of_pairs [(0, 1), (1, 0)] (by decide) (by decide)

/-- Non-vacuity of `C06_safe_join`: its hypotheses hold for the schedule `joinWrites` on two
replicas, where the join of everything written to key 1 is `3`, a value nobody wrote. -/
example : (∀ op ∈ joinWrites, match op with | .write r _ _ => r < 2 | .pull i j => i < 2 ∧ j < 2) ∧
    written joinWrites 1 = some 3 ∧ written joinWrites 5 = some 1 ∧
    ∃ rs : List (Replica Nat Bits (List UInt8)),
      syncRun Bits.lvl Bits.cfg .joinMax (freshReplicas 2) joinWrites = .ok rs ∧
      ∀ r ∈ rs, optLe (lookupKV 1 r.store) (some 3) := by
  refine ⟨?_, by decide, by decide, ?_⟩
  · intro op hop
    obtain ⟨r, k, v, rfl, h⟩ := joinWrites_ok op hop
    exact h
  obtain ⟨rs, hrun, -, hle, -, -⟩ := C06_safe_join Bits.lvl Bits.lvl_lt Bits.cfg 2 joinWrites
    (fun op hop => by
      obtain ⟨r, k, v, rfl, h⟩ := joinWrites_ok op hop
      exact h)
  exact ⟨rs, hrun, fun r hr => hle r hr 1⟩

/-- Why `C06_safe_join` says "least upper bound" where the linear-order `C06_safe` says "held by
some replica": after `joinWrites` (no pull yet) the join of everything written to key 1
is `3`, and NO replica holds `3`. (Kernel-evaluated run of the model.) -/
theorem C06_join_not_held_before_pulls :
    written joinWrites 1 = some 3 ∧
    ∃ rs : List (Replica Nat Bits (List UInt8)),
      syncRun Bits.lvl Bits.cfg .joinMax (freshReplicas 2) joinWrites = .ok rs ∧
      rs.map (fun r => lookupKV 1 r.store) = [some 1, some 2] :=
  ⟨rfl, _, rfl, rfl⟩

/-- Non-vacuity of `C06_live_join`: after `joinWrites` and `2·3+1 = 7` sweeps both replicas hold the
join `3 = 1 ⊔ 2` at key 1 — a value neither wrote — and `1` at key 5. -/
example : ∃ rs : List (Replica Nat Bits (List UInt8)),
    syncRun Bits.lvl Bits.cfg .joinMax (freshReplicas 2)
      (joinWrites ++ (List.replicate 7 joinSweep).flatten) = .ok rs ∧ rs.length = 2 ∧
    (∀ r ∈ rs, lookupKV 1 r.store = some 3 ∧ lookupKV 5 r.store = some 1) := by
  obtain ⟨rs, hrun, hlen, hall, -⟩ :=
    C06_live_join Bits.lvl Bits.lvl_lt Bits.cfg Bits.cfg_noCollisions 2 joinWrites
      (fun op hop => by
        obtain ⟨r, k, v, rfl, h⟩ := joinWrites_ok op hop
        exact h)
      (List.replicate 7 joinSweep)
      (fun s hs => by rw [List.eq_of_mem_replicate hs]; exact joinSweep_isSweep) (by decide)
  refine ⟨rs, hrun, hlen, fun r hr => ⟨?_, ?_⟩⟩
  · rw [hall r hr 1]; decide
  · rw [hall r hr 5]; decide

/-- Non-vacuity of `C06_live_stale_join`, instantiated at a schedule with a stale fetch of an
arbitrary range and a hash request between the writes. -/
example : ∃ rs₀ rs : List (Replica Nat Bits (List UInt8)),
    syncRun2 Bits.lvl Bits.cfg .joinMax (freshReplicas 2)
      [.write 0 1 1, .hash 0, .write 1 1 2, .fetchStale 1 0 [(0, 9)], .write 0 5 1] = .ok rs₀ ∧
    syncRun Bits.lvl Bits.cfg .joinMax rs₀ (List.replicate 7 joinSweep).flatten = .ok rs ∧
    (∀ r ∈ rs, lookupKV 1 r.store = some 3 ∧ lookupKV 5 r.store = some 1) := by
  obtain ⟨rs₀, rs, h0, h1, -, h3, -⟩ := C06_live_stale_join Bits.lvl Bits.lvl_lt Bits.cfg
    Bits.cfg_noCollisions 2
    [.write 0 1 1, .hash 0, .write 1 1 2, .fetchStale 1 0 [(0, 9)], .write 0 5 1]
    (by
      intro op hop
      simp only [List.mem_cons, List.not_mem_nil, or_false] at hop
      rcases hop with rfl | rfl | rfl | rfl | rfl <;> decide)
    (List.replicate 7 joinSweep)
    (fun s hs => by rw [List.eq_of_mem_replicate hs]; exact joinSweep_isSweep) (by decide)
  refine ⟨rs₀, rs, h0, h1, fun r hr => ⟨?_, ?_⟩⟩
  · rw [h3 r hr 1]; decide
  · rw [h3 r hr 5]; decide

/-! ### The max of a linear order (corollaries) -/

variable {K V D : Type} [LinearOrder K] [LinearOrder V] [DecidableEq D]

/-- Refinement, for ANY number of replicas, ANY schedule over {write, pull}, either merge rule:
no operation panics and every replica's incrementally maintained tree — with whatever cache state
its own history of hashing left — satisfies the tree invariant and mirrors its store at every step. -/
theorem C06_refine (lvl : K → Nat) (hlvl : ∀ k, lvl k < 255) (hc : HashCfg K V D) (m : Merge)
    (n : Nat) (ops : List (SyncOp K V)) :
    ∃ rs, syncRun lvl hc m (freshReplicas n : List (Replica K V D)) ops = .ok rs ∧
      rs.length = n ∧ ∀ r ∈ rs, RInv lvl hc r :=
  C06_refine_join lvl hlvl hc m n ops

/-- Safety under the join merge: nothing written is lost and nothing is invented — every replica
holds at most the join of everything written, and for every key that join is held by some replica. -/
theorem C06_safe (lvl : K → Nat) (hlvl : ∀ k, lvl k < 255) (hc : HashCfg K V D)
    (n : Nat) (ops : List (SyncOp K V))
    (hw : ∀ op ∈ ops, match op with | .write r _ _ => r < n | .pull i j => i < n ∧ j < n) :
    ∃ rs, syncRun lvl hc .joinMax (freshReplicas n : List (Replica K V D)) ops = .ok rs ∧ rs.length = n ∧
      (∀ r ∈ rs, ∀ k, optLe (lookupKV k r.store) (written ops k)) ∧
      (∀ k v, written ops k = some v → ∃ r ∈ rs, lookupKV k r.store = some v) := by
  obtain ⟨rs, hrun, hl, hle, hlub, -⟩ := C06_safe_join lvl hlvl hc n ops hw
  exact ⟨rs, hrun, hl, hle, fun k =>
    lub_attained (fun r => lookupKV k r.store) rs (fun r hr => hle r hr k) (hlub k)⟩

/-- Liveness: once writes stop, every continuation that keeps pulling between all pairs
(`n·|ops| + 1` sweeps, each containing every ordered pair, in any order, with any extra pulls)
reaches a state where all replicas hold exactly the join of everything ever written and report
the same root hash. -/
theorem C06_live (lvl : K → Nat) (hlvl : ∀ k, lvl k < 255) (hc : HashCfg K V D)
    (hnc : NoCollisions hc) (n : Nat) (ops : List (SyncOp K V))
    (hw : ∀ op ∈ ops, match op with | .write r _ _ => r < n | .pull i j => i < n ∧ j < n)
    (sweeps : List (List (SyncOp K V))) (hs : ∀ s ∈ sweeps, IsSweep n s)
    (hlen : n * ops.length + 1 ≤ sweeps.length) :
    ∃ rs, syncRun lvl hc .joinMax (freshReplicas n : List (Replica K V D)) (ops ++ sweeps.flatten) = .ok rs ∧
      rs.length = n ∧
      (∀ r ∈ rs, ∀ k, lookupKV k r.store = written ops k) ∧
      (∀ r₁ ∈ rs, ∀ r₂ ∈ rs, r₁.store = r₂.store ∧
        (r₁.tree.genRootHash hc).rootHash = (r₂.tree.genRootHash hc).rootHash) :=
  C06_live_join lvl hlvl hc hnc n ops hw sweeps hs hlen

/-! ### Stale in-flight snapshots, linear order (`SyncOp2`: see before `C06_refine_stale_join`) -/

/-- Refinement with stale fetches, any merge rule: no panic, every tree mirrors its store. -/
theorem C06_refine_stale (lvl : K → Nat) (hlvl : ∀ k, lvl k < 255) (hc : HashCfg K V D) (m : Merge)
    (rs : List (Replica K V D)) (hrs : ∀ r ∈ rs, RInv lvl hc r) (ops : List (SyncOp2 K V)) :
    ∃ rs', syncRun2 lvl hc m rs ops = .ok rs' ∧ rs'.length = rs.length ∧ ∀ r ∈ rs', RInv lvl hc r :=
  C06_refine_stale_join lvl hlvl hc m rs hrs ops

/-- Safety with stale fetches (join): nothing is lost, nothing invented. -/
theorem C06_safe_stale (lvl : K → Nat) (hlvl : ∀ k, lvl k < 255) (hc : HashCfg K V D)
    (n : Nat) (ops : List (SyncOp2 K V))
    (hw : ∀ op ∈ ops, match op with | .write r _ _ => r < n | _ => True) :
    ∃ rs, syncRun2 lvl hc .joinMax (freshReplicas n : List (Replica K V D)) ops = .ok rs ∧ rs.length = n ∧
      (∀ r ∈ rs, RInv lvl hc r) ∧
      (∀ r ∈ rs, ∀ k, optLe (lookupKV k r.store) (written2 ops k)) ∧
      (∀ k v, written2 ops k = some v → ∃ r ∈ rs, lookupKV k r.store = some v) := by
  obtain ⟨rs, hrun, hl, hi, hle, hlub, -⟩ := C06_safe_stale_join lvl hlvl hc n ops hw
  exact ⟨rs, hrun, hl, hi, hle, fun k =>
    lub_attained (fun r => lookupKV k r.store) rs (fun r hr => hle r hr k) (hlub k)⟩

/-- Liveness after ANY schedule including stale fetches: enough fair sweeps of fresh pulls bring
every replica to the join of everything written, with equal root hashes. -/
theorem C06_live_stale (lvl : K → Nat) (hlvl : ∀ k, lvl k < 255) (hc : HashCfg K V D)
    (hnc : NoCollisions hc) (n : Nat) (ops : List (SyncOp2 K V))
    (hw : ∀ op ∈ ops, match op with | .write r _ _ => r < n | _ => True)
    (sweeps : List (List (SyncOp K V))) (hs : ∀ s ∈ sweeps, IsSweep n s)
    (hlen : n * countWrites2 ops + 1 ≤ sweeps.length) :
    ∃ rs₀ rs, syncRun2 lvl hc .joinMax (freshReplicas n : List (Replica K V D)) ops = .ok rs₀ ∧
      syncRun lvl hc .joinMax rs₀ sweeps.flatten = .ok rs ∧ rs.length = n ∧
      (∀ r ∈ rs, ∀ k, lookupKV k r.store = written2 ops k) ∧
      (∀ r₁ ∈ rs, ∀ r₂ ∈ rs, r₁.store = r₂.store ∧
        (r₁.tree.genRootHash hc).rootHash = (r₂.tree.genRootHash hc).rootHash) :=
  C06_live_stale_join lvl hlvl hc hnc n ops hw sweeps hs hlen

/-- Scope note (i) as a theorem: under PEER-WINS with three replicas a fair schedule — every ordered
pair of replicas pulls in every period — never converges: after the three initial writes and any
number of periods two different values are still present. Hence the convergence clause of the
property cannot hold for peer-wins with ≥ 3 replicas, whatever the library does; it is proved for
the join merge (`C06_live`) and, for two replicas, for peer-wins as well (`C05_rounds`). -/
theorem C06_peerWins_three_replicas_counterexample (n : Nat) :
    IsSweep 3 pwCycle ∧
    ∃ rs : List (Replica Nat Nat (List UInt8)),
      syncRun lvl0 perfectCfg .peerWins (freshReplicas 3) (pwStart ++ (List.replicate n pwCycle).flatten) = .ok rs ∧
      rs.length = 3 ∧ ∃ r₁ ∈ rs, ∃ r₂ ∈ rs, r₁.store ≠ r₂.store :=
  ⟨pwCycle_isSweep, peerWins_fair_schedule_never_converges n⟩

end Mst.Props

#print axioms Mst.Props.C06_refine_join
#print axioms Mst.Props.C06_safe_join
#print axioms Mst.Props.C06_live_join
#print axioms Mst.Props.C06_refine_stale_join
#print axioms Mst.Props.C06_safe_stale_join
#print axioms Mst.Props.C06_live_stale_join
#print axioms Mst.Props.C06_join_not_held_before_pulls
#print axioms Mst.Props.C06_safe
#print axioms Mst.Props.C06_live
#print axioms Mst.Props.C06_safe_stale
#print axioms Mst.Props.C06_live_stale
